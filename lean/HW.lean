import HW.Props.C01
import HW.Props.C02
import HW.Props.C03
import HW.Props.C04
import HW.Props.C05
import HW.Props.C06
import HW.Props.C07
import HW.Props.C08
import HW.Props.C09
import HW.Props.C10
import HW.Props.C11
import HW.Props.C12
import HW.Props.C13
import HW.Props.C14
import HW.Props.C15
import HW.Props.C16
import HW.Props.C17
import HW.Props.C18
import HW.Props.C19
import HW.Props.C20
