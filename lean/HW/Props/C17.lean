/-
C17 — remote sends arrive once and in order; unreachable peers are reported.
Partial by nature: TCP, drpc framing, the dial timers and the goroutines inside drpc are runtime
behaviour the model assumes ("an established connection is an ordered reliable byte stream");
what is logic is proved here and the whole pipeline is exercised over loopback TCP on every run.
-/
import HW.Proofs.Router
import HW.Props.C15
import HW.Props.C01
namespace HW.C17
open HW.Router HW.Wire

/-- However timing splits the writer's backlog into batches, encoding each batch and decoding it on
    the other side yields exactly the backlog, in order, each message with its own target and sender
    (when everything is sendable). -/
theorem batch_split_irrelevant {P : Type} (c : Codec P) (batches : List (List (Deliver P)))
    (h : ∀ b ∈ batches, ∀ d ∈ b, sendable c d = true) :
    (batches.map fun b => (decode c (encode c b)).1).flatten = batches.flatten.map Deliver.toDelivery := by
  rw [List.map_flatten]
  exact congrArg _ (List.map_congr_left fun b hb => by rw [C15.roundtrip_all c b (h b hb)])

/-- order: if what leaves the sending node preserves every sender's program order (C01 at the router
    and writer inboxes), then what each target receives preserves the order of every sender's messages
    to that target. (`sender`/`target` are any attributes of a message.) -/
theorem per_target_order {M : Type} (sender target : M → Nat) (wire : List M) (prog : Nat → List M)
    (h : ∀ s, wire.filter (fun m => sender m = s) = prog s) (s t : Nat) :
    (wire.filter (fun m => target m = t)).filter (fun m => sender m = s) = (prog s).filter (fun m => target m = t) := by
  rw [← h s, List.filter_filter, List.filter_filter]
  congr 1
  funext m
  exact Bool.and_comm _ _

/-- unreachable peers: the router/writer state machine keeps the invariant "a route without a
    registered writer has its unreachable notice on the way to the router", for every interleaving
    of sends, router steps, dial outcomes and lost connections … -/
theorem route_invariant (dial : Addr → Bool) (s : St) (h : RouteInv s) (a : Addr) (m : Nat) :
    RouteInv (send s a m) ∧ RouteInv (routerStep dial s).1 ∧ RouteInv (connLost s a).1 :=
  ⟨send_inv s a m h, routerStep_inv dial s h, connLost_inv s a h⟩

/-- … hence once the router has caught up, every route has a live writer: a later send to an address
    whose connection attempt failed (or whose connection was lost) makes a fresh attempt. -/
theorem fresh_attempt_after_failure (s : St) (h : RouteInv s) (hq : s.inbox = []) :
    ∀ a, a ∈ s.routes → a ∈ s.registered :=
  fun a ha => (h a ha).resolve_right fun h1 => nomatch hq ▸ h1

/-- every message the router handles is either handed to a live writer or surfaces as a dead letter. -/
theorem no_silent_loss (dial : Addr → Bool) (s : St) (a : Addr) (m : Nat) (rest : List RMsg)
    (hin : s.inbox = .deliver a m :: rest) :
    Out.sent a m ∈ (routerStep dial s).2 ∨ Out.deadLetter a m ∈ (routerStep dial s).2 := by
  unfold routerStep
  rw [hin]
  simp only [sendToWriter]
  split <;> simp

/-- Start twice, Stop twice, Stop before Start are harmless; after Stop no inbound connection is accepted. -/
theorem start_stop_harmless (s : RState) :
    (remoteStart (remoteStart s).1).1 = (remoteStart s).1 ∧
    (remoteStop (remoteStop s).1).1 = (remoteStop s).1 ∧
    accepting (remoteStop s).1 = false ∧
    (remoteStop .initialized).1 = .initialized ∧
    accepting (remoteStart .initialized).1 = true ∧
    (remoteStart (remoteStop .running).1).2 = .alreadyStarted := by
  cases s <;> decide

/-- non-vacuity: three messages to a peer that refuses, the router catches up, the peer comes up, one more. -/
example :
    let s1 := (drainRouter (fun _ => false) 9 (send (send (send {} "p" 1) "p" 2) "p" 3))
    let s2 := drainRouter (fun _ => true) 9 (send s1.1 "p" 4)
    s1.2 = [.unreachableEvent "p", .deadLetter "p" 1, .deadLetter "p" 2, .deadLetter "p" 3] ∧
    s1.1.routes = [] ∧ s2.2 = [.sent "p" 4] := by
  decide

end HW.C17
