/-
C10 — one live actor per ID; duplicate spawns change nothing.
Each Registry method is one critical section (Facts.registry_atomic), so every history of concurrent
Spawn / SpawnChild / Stop callers is a sequence of the atomic steps modelled in HW.Registry, in
lock-acquisition order; the theorems quantify over ALL such sequences.
-/
import HW.Proofs.Registry
import HW.Props.Facts
namespace HW.C10
open HW.Registry

/-- at any moment at most one actor answers to an id: the registry never holds two entries for one
    id, after any sequence of add / remove / get by any callers. -/
theorem unique (ops : List Op) : (run {} ops).1.WF :=
  run_wf {} ops List.nodup_nil

/-- spawning an id that is taken changes nothing (the incumbent stays, `Start` is not run: the result
    is `dup`, on which the code only publishes ActorDuplicateIdEvent). -/
theorem add_dup_noop (r : Reg) (id : Id) (inst inc : Inst) (h : r.get id = some inc) :
    r.add id inst = (r, .dup) :=
  Registry.add_dup_noop r id inst inc h

/-- spawning a free id registers exactly that actor and touches no other id. -/
theorem add_free (r : Reg) (id : Id) (inst : Inst) (h : r.get id = none) :
    (r.add id inst).2 = .won ∧ (r.add id inst).1.get id = some inst ∧
    ∀ id', id' ≠ id → (r.add id inst).1.get id' = r.get id' :=
  Registry.add_free r id inst h

/-- of several concurrent spawns of one free id exactly one wins (whatever their order). -/
theorem one_winner (r : Reg) (id : Id) (insts : List Inst) (h : r.get id = none) (hne : insts ≠ []) :
    ((run r (insts.map (Op.add id))).2.filter (· = Out.added .won)).length = 1 :=
  Registry.one_winner r id insts h hne

/-- `Remove` unregisters exactly that id: GetPID answers nil for it afterwards and as before for every other id. -/
theorem getpid_iff_registered (r : Reg) (id : Id) :
    (r.remove id).get id = none ∧ ∀ id', id' ≠ id → (r.remove id).get id' = r.get id' :=
  ⟨(lookup_erase ..).trans (if_pos rfl), fun _ hne => (lookup_erase ..).trans (if_neg hne)⟩

/-- after an actor has been removed its id can be spawned again. -/
theorem reuse_after_stop (r : Reg) (id : Id) (inst : Inst) :
    ((r.remove id).add id inst).2 = .won ∧ ((r.remove id).add id inst).1.get id = some inst :=
  have h := Registry.add_free _ id inst (getpid_iff_registered r id).1
  ⟨h.1, h.2.1⟩

/-- the atomicity premise, regenerated from the source on every run. -/
theorem registry_ops_atomic :
    Generated.registryLockShape = [("Remove", true), ("get", true), ("getByID", true)] ∧
    Generated.registryAddAtomic = true :=
  Facts.registry_atomic

example : (run {} [.add "a" 1, .add "a" 2, .get "a", .remove "a", .get "a", .add "a" 3, .get "a"]).2 =
    [.added .won, .added .dup, .got (some 1), .removed, .got none, .added .won, .got (some 3)] := by
  decide

end HW.C10
