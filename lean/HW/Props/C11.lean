/-
C11 — request/response: correlated, at most once, bounded by the timeout.
-/
import HW.Proofs.Response
namespace HW.C11
open HW.Response

/-- No cross-talk, for every history of requests, replies (zero, one or several per request, to any
    response id, in any order) and Result calls by any number of concurrent requesters: a value
    returned for a response was sent to that very response id — which only that request's message
    carried as its sender (ids are fresh: `fresh_ids`). -/
theorem correlated (ops : List Op) (id : Nat) (fired : Bool) (v : Val)
    (hr : (step (run {} ops).1 (.result id fired)).2 = .value v) :
    (id, v) ∈ (run {} ops).1.hist :=
  result_value_was_sent _ (run_inv {} ops inv_init) id fired v hr

/-- response ids are never reused while one is alive: the id handed to a new request is not registered. -/
theorem fresh_ids (ops : List Op) : lookup (run {} ops).1.nextId (run {} ops).1.reg = none :=
  request_fresh _ (run_inv {} ops inv_init)

/-- an error is returned only once the timeout has passed. -/
theorem timeout_only_after_deadline (s : St) (id : Nat) (fired : Bool)
    (hr : (step s (.result id fired)).2 = .timeout) : fired = true ∧ lookup id s.reg = some none := by
  rw [step] at hr
  split at hr
  · cases hr
  · cases hr
  · rename_i hlk
    split at hr
    · exact ⟨‹_›, hlk⟩
    · cases hr

/-- once Result() has returned, whichever of reply and timeout won, the response PID is no longer
    registered and a late reply becomes a dead letter. -/
theorem unregistered_then_deadletter (s : St) (id : Nat) (fired : Bool)
    (hr : (step s (.result id fired)).2 ≠ .pending) (v : Val) :
    lookup id (step s (.result id fired)).1.reg = none ∧
    (step (step s (.result id fired)).1 (.reply id v)).2 = .deadLetter := by
  have h1 : lookup id (step s (.result id fired)).1.reg = none := by
    have he : lookup id (erase id s.reg) = none := (lookup_erase ..).trans (if_pos rfl)
    rw [step] at hr ⊢
    split
    · assumption
    · exact he
    · split
      · exact he
      · rename_i hlk hf; rw [hlk, if_neg hf] at hr; exact absurd rfl hr
  refine ⟨h1, ?_⟩
  generalize (step s (.result id fired)).1 = s' at h1
  rw [step]; simp only [h1]

example : (run {} [.request, .request, .reply 1 7, .reply 0 5, .reply 0 6, .result 0 true, .reply 0 9, .result 1 true]).2 =
    [.requested 0, .requested 1, .delivered, .delivered, .dropped, .value 5, .deadLetter, .value 7] := by
  decide

end HW.C11
