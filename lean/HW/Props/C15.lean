/-
C15 — batched wire encoding round-trips every message to its own target and sender.
-/
import HW.Proofs.Wire
namespace HW.C15
open HW.Wire
variable {P : Type}

/-- For every codec satisfying the payload round-trip law and EVERY batch (any length, any mix of
    targets, senders incl. none, PIDs that differ only in how address and id split, payload types,
    unserialisable or non-proto payloads at any position): the receiver delivers exactly the sendable
    messages, same count, same order, each to its own target with its own payload and sender. -/
theorem roundtrip (c : Codec P) (batch : List (Deliver P)) :
    decode c (encode c batch) = ((batch.filter (sendable c)).map Deliver.toDelivery, .ok) :=
  (Inv_foldl c batch {} [] ⟨WF_nil, WF_nil, WF_nil, fun _ _ _ _ => rfl⟩).dec
    (batch.foldl (encodeStep c) {}).envelope (List.prefix_refl _) (List.prefix_refl _)
    (List.prefix_refl _)

/-- what the receiver gets of a batch, given that the writer puts nothing on the wire when no message of the batch
    could be encoded (`transmit`). -/
def received (c : Codec P) (batch : List (Deliver P)) : List (Delivery P) × Outcome :=
  match transmit c batch with
  | none => ([], .ok)
  | some e => decode c e

/-- … and that changes nothing: with or without the empty envelope, the receiver delivers exactly the sendable
    messages of the batch. -/
theorem roundtrip_transmit (c : Codec P) (batch : List (Deliver P)) :
    received c batch = ((batch.filter (sendable c)).map Deliver.toDelivery, .ok) := by
  rw [← roundtrip, received, transmit]
  by_cases h : (encode c batch).messages.isEmpty = true
  · rw [if_pos h, decode, List.isEmpty_iff.1 h]; rfl
  · rw [if_neg h]

/-- a batch in which everything is sendable arrives complete. -/
theorem roundtrip_all (c : Codec P) (batch : List (Deliver P)) (h : ∀ d ∈ batch, sendable c d = true) :
    decode c (encode c batch) = (batch.map Deliver.toDelivery, .ok) := by
  rw [roundtrip, List.filter_eq_self.mpr h]

/-- an unserialisable message is dropped on its own: nothing is delivered in its place and the
    messages around it are unaffected. -/
theorem bad_message_isolated (c : Codec P) (pre post : List (Deliver P)) (d : Deliver P)
    (hbad : sendable c d = false) :
    decode c (encode c (pre ++ d :: post)) = decode c (encode c (pre ++ post)) := by
  simp [roundtrip, List.filter_append, hbad]

/-- a message sent without a sender arrives without one (instance of `roundtrip`, stated outright). -/
theorem nil_sender_stays_nil (c : Codec P) (batch : List (Deliver P)) (i : Nat) (d : Delivery P)
    (h : (decode c (encode c batch)).1[i]? = some d) :
    ∃ x ∈ batch, x.toDelivery = d ∧ (x.sender = none → d.sender = none) := by
  rw [roundtrip] at h
  have hm : d ∈ (batch.filter (sendable c)).map Deliver.toDelivery := List.mem_of_getElem? h
  obtain ⟨x, hx, rfl⟩ := List.mem_map.mp hm
  exact ⟨x, (List.mem_filter.mp hx).1, rfl, fun hs => hs⟩

/-- non-vacuity: a mixed batch with a nil sender, PIDs differing only in the address/id split, an
    unserialisable and a non-proto payload. -/
example :
    decode demoCodec (encode demoCodec
      [⟨none, ⟨"ab", "c"⟩, 1⟩, ⟨some ⟨"a", "bc"⟩, ⟨"a", "bc"⟩, 2⟩, ⟨some ⟨"ab", "c"⟩, ⟨"n", "x"⟩, 4⟩,
       ⟨some ⟨"a", "bc"⟩, ⟨"ab", "c"⟩, 5⟩, ⟨none, ⟨"n", "x"⟩, 3⟩]) =
    ([⟨⟨"ab", "c"⟩, 1, none⟩, ⟨⟨"a", "bc"⟩, 2, some ⟨"a", "bc"⟩⟩, ⟨⟨"n", "x"⟩, 3, none⟩], .ok) := by
  decide

end HW.C15
