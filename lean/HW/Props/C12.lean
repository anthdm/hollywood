/-
C12 — the event stream delivers each event once to each current subscriber, in order.
Subscribers are identified by (address, id): equal PIDs held in distinct objects are one key.
Broadcast order from one goroutine and happens-before between Subscribe and a later broadcast are
the order of the stream's inbox (C01); the theorems below are about that order.
-/
import HW.Proofs.Engine
namespace HW.C12
open HW.Engine

/-- for EVERY sequence of subscribe / unsubscribe / broadcast over any pool of keys: after a prefix
    `pre` of the stream, a reachable key is a subscriber iff its last sub/unsub in `pre` was a sub … -/
theorem subscribed_iff_last_sub (e : Eng) (pre : List EMsg) (k : Key) (hd : deliverable e k = true) :
    (k ∈ (esRun e [] pre).1) ↔ subscribedAfter k false pre = true := by
  simpa using congrArg (· = true) (mem_esRun e [] pre k hd)

/-- … and the next event is forwarded to it exactly once if so, and not at all otherwise —
    subscribing twice does not duplicate, after an unsubscribe nothing more arrives. -/
theorem event_once_iff_subscribed (e : Eng) (pre : List EMsg) (n : Nat) (k : Key) (hd : deliverable e k = true) :
    (esReceive e (esRun e [] pre).1 (.event n)).2.count (k, n) =
      if subscribedAfter k false pre = true then 1 else 0 := by
  rw [forward_count e _ n k (esRun_nodup e [] pre List.nodup_nil)]
  simp [hd, subscribed_iff_last_sub e pre k hd]

/-- events broadcast in one order reach each subscriber in that order, each at most once: what a
    subscriber is forwarded is a sublist of the stream's events (the stream's inbox order is the
    broadcast order of each goroutine: C01). -/
theorem forwards_in_stream_order (e : Eng) (ms : List EMsg) (k : Key) :
    (forwardedTo k (esRun e [] ms).2).Sublist (eventsOf ms) :=
  forwards_in_order e [] ms k List.nodup_nil

/-- the subscriber set never holds a key twice. -/
theorem subs_nodup (e : Eng) (ms : List EMsg) : (esRun e [] ms).1.Nodup :=
  esRun_nodup e [] ms List.nodup_nil

/-- non-vacuity: sub, sub again (equal PID), event, unsub, event. -/
example :
    let e : Eng := { address := "local", hasRemote := false, registered := fun _ => true }
    let k : Key := ⟨"local", "s/a"⟩
    (esRun e [] [.sub k, .sub k, .event 1, .unsub k, .event 2]).2 = [(k, 1)] := by
  decide

end HW.C12
