/-
C06 — restarts are bounded by MaxRestarts; exceeding it stops the actor cleanly.
-/
import HW.Proofs.ProcShape
import HW.Props.Facts
namespace HW.C06
open HW.Proc

/-- over its whole life an actor is restarted at most MaxRestarts times (for all MaxRestarts ≥ 0,
    all scripts, all placements of the panics). -/
theorem restarts_bounded (max mw : Nat) (script : List Outcome) (batches : List (List Msg)) :
    restartsOK max (runHistory max mw script batches).1.trace = true :=
  Shape.restarts_ok max mw script batches

/-- read off as plain statements: an actor is restarted at most `max` times in its whole life, for
    every history and crash script, and the k-th restart event carries the number k. -/
theorem at_most_max_restarts (max mw : Nat) (script : List Outcome) (batches : List (List Msg)) :
    (restartNumbers (runHistory max mw script batches).1.trace).length ≤ max ∧
    ∀ k (h : k < (restartNumbers (runHistory max mw script batches).1.trace).length),
      (restartNumbers (runHistory max mw script batches).1.trace)[k] = k + 1 := by
  obtain ⟨-, h2, h3⟩ := Shape.restart_history max mw script batches
  simp [h2, h3]

/-- the next panic terminates it instead: after ActorMaxRestartsExceededEvent the inbox is stopped,
    the actor unregistered, Stopped handled once, ActorStoppedEvent published, and nothing follows. -/
theorem terminates_cleanly (max mw : Nat) (script : List Outcome) (batches : List (List Msg)) :
    afterMaxOK (runHistory max mw script batches).1.trace = true :=
  Shape.after_max_ok max mw script batches

/-- … and the hosting process keeps running: the panic does not escape. -/
theorem process_survives (max mw : Nat) (script : List Outcome) (batches : List (List Msg)) :
    (runHistory max mw script batches).2 = none :=
  Shape.runHistory_no_escape max mw script batches

/-- the default budget in the source is the one documented. -/
theorem default_budget : Generated.defaultMaxRestarts = 3 := by decide

/-- non-vacuity: budget 1, two panics: one restart, then clean termination. -/
example :
    let r := runHistory 1 0 [.ok, .ok, .panic, .ok, .ok, .panic] [[.user 1 none, .user 2 none, .user 3 none]]
    restartNumbers r.1.trace = [1] ∧ (Ev.ev .maxRestarts) ∈ r.1.trace ∧ r.1.stopped = true ∧ r.1.registered = false ∧ r.2 = none := by
  decide +kernel

end HW.C06
