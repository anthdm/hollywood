/-
C19 — cluster activations: unique, placed on a capable member, known everywhere.
Theorems over `HW.ClusterSys` (n agents, per-node registries, a pool of in-flight notifications
delivered in an ARBITRARY order), under the well-formedness stated in the model file.
-/
import HW.Proofs.ClusterJoin
namespace HW.C19
open HW.Cluster HW.ClusterSys

/-- Activate returns nil and spawns nothing if kind/id is already known to the cluster … -/
theorem dup_nil (s : Sys) (nid kind id : String) (sel : Option Nat) (n : Node)
    (hn : getNode s nid = some n) (hk : n.agent.activated.any (·.1 = key kind id) = true) :
    activate s nid kind id sel = (s, none) := by
  unfold activate
  rw [hn]
  exact if_pos hk

/-- … or if no member advertises the kind. -/
theorem nokind_nil (s : Sys) (nid kind id : String) (sel : Option Nat) (n : Node)
    (hn : getNode s nid = some n) (hk : ∀ m ∈ n.agent.members, m.kinds.contains kind = false) :
    activate s nid kind id sel = (s, none) := by
  have hf : sortById (n.agent.members.filter (fun m => m.kinds.contains kind)) = [] := by
    rw [List.filter_eq_nil_iff.mpr fun m hm => by rw [hk m hm]; simp]; rfl
  unfold activate
  rw [hn]
  -- no candidates: whether or not the id is known, the answer is nil
  simp only [hf, if_true]
  exact ite_self _

/-- otherwise the PID returned is kind/id on a member that registered the kind, chosen among the
    members advertising it, and at most one actor is spawned — there. -/
theorem spawn_once_on_capable (s : Sys) (nid kind id : String) (sel : Option Nat) (pid : Pid)
    (h : (activate s nid kind id sel).2 = some pid) :
    pid.2 = key kind id ∧
    ∃ n t, getNode s nid = some n ∧ getNode s t.id = some t ∧ t.host = pid.1 ∧
      t.localKinds.contains kind = true ∧
      (∃ m ∈ n.agent.members, m.id = t.id ∧ m.kinds.contains kind = true) ∧
      ((activate s nid kind id sel).1.log = s.log ∨
       (activate s nid kind id sel).1.log = s.log ++ ["spawn:" ++ t.id ++ ":" ++ key kind id]) := by
  rcases activate_shape s nid kind id sel with hnone | ⟨n, t, m, n1, hn, _, hm, hmk, ht, htk, _, heq⟩
  · rw [hnone] at h; cases h
  · rw [heq] at h ⊢
    cases h
    refine ⟨rfl, n, t, hn, ?_, rfl, htk, ⟨m, hm, (getNode_some ht).2.symm, hmk⟩, ?_⟩
    · rw [(getNode_some ht).2]; exact ht
    · simp only [bcast_activation_log]
      exact spawnOn_log s t (key kind id)

/-- once the resulting notifications have been delivered — under ALL arrival orders — every member
    resolves kind/id to that same PID, and the cluster is consistent again. -/
theorem agreement (s : Sys) (hc : Consistent s) (nid kind id : String) (sel : Option Nat) (pid : Pid)
    (order : List Nat)
    (h : (activate s nid kind id sel).2 = some pid)
    (hlen : (activate s nid kind id sel).1.pool.length ≤ order.length) :
    Consistent (drain (activate s nid kind id sel).1 order) ∧
    ∀ n ∈ (drain (activate s nid kind id sel).1 order).nodes, getActiveByID n (key kind id) = some pid := by
  rcases activate_shape s nid kind id sel with hnone | ⟨n, t, m, n1, hn, hk, _, _, ht, _, hn1, heq⟩
  · rw [hnone] at h; cases h
  · rw [heq] at h hlen ⊢
    cases h
    -- nobody knows the key before
    have hb : Base (.activation (t.host, key kind id)) (key kind id)
        (ResolvesOrNone (key kind id) (t.host, key kind id)) s :=
      base_of_consistent hc fun y hy => Or.inr
        (getActiveByID_none.mp ((hc.agree y hy n (getNode_some hn).1 _).trans hk))
    exact bcast_round (activation_spec (t.host, key kind id))
      (fun a b ha hb => by unfold Resolves at ha hb; unfold getActiveByID; rw [ha, hb])
      (spawnOn_base (key kind id) hb (getNode_some ht).1) (getNode_some hn1).1 order hlen

/-- Deactivate removes the entry on every member, under all arrival orders. -/
theorem deactivate_everywhere (s : Sys) (hc : Consistent s) (nid : String) (pid : Pid) (order : List Nat)
    (hn : (getNode s nid).isSome = true)
    (hlen : (deactivate s nid pid).pool.length ≤ order.length) :
    Consistent (drain (deactivate s nid pid) order) ∧
    ∀ n ∈ (drain (deactivate s nid pid) order).nodes, getActiveByID n pid.2 = none :=
  ClusterSys.deactivate_everywhere s hc nid pid order hn hlen

/-- a member that joins later learns all active actors: after the topology notifications have been
    delivered — in ANY order — the joiner resolves every id exactly like everybody else, and the
    enlarged cluster is consistent. -/
theorem joiner_learns_all (s : Sys) (hc : Consistent s) (x : Node)
    (hfresh : ∀ n ∈ s.nodes, n.id ≠ x.id)
    (hx : x.agent.members = [] ∧ x.agent.activated = [])
    (order : List Nat) (hlen : (joinNode s x).pool.length ≤ order.length) :
    Consistent (drain (joinNode s x) order) ∧
    (∀ n ∈ s.nodes, ∀ k, ∀ x' ∈ (drain (joinNode s x) order).nodes, x'.id = x.id →
       getActiveByID x' k = getActiveByID n k) :=
  ClusterSys.joiner_learns_all s hc x hfresh hx order hlen

/-- when a member leaves, every activation hosted on it disappears from a remaining member's view,
    and nothing else does. -/
theorem leave_purges (st : AgentSt) (m : Member) :
    ∀ a, a ∈ (memberLeave st m).1.activated ↔ a ∈ st.activated ∧ a.2.1 ≠ m.host :=
  Cluster.leave_purges st m

end HW.C19
