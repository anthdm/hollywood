/-
C04 — life-cycle protocol: Initialized, Started, messages, one final Stopped.
Theorems about `HW.Proc.runHistory`: spawn followed by any sequence of batches, for EVERY restart
budget, middleware chain length, crash script (panic / InternalError at any delivery, including the
life-cycle handlers of later incarnations) and history of user messages and poison pills.
-/
import HW.Proofs.ProcShape
namespace HW.C04
open HW.Proc

/-- every incarnation sees `Initialized (Started user*)? Stopped?` — Stopped at most once and last,
    a new incarnation only after the previous one has handled Stopped, nothing after it. -/
theorem lifecycle_shape (max mw : Nat) (script : List Outcome) (batches : List (List Msg)) :
    lifecycleOK (runHistory max mw script batches).1.trace = true :=
  Shape.lifecycle_ok max mw script batches

/-- when Spawn returns, Started has been handled (or the actor has already ended): the trace of a
    spawn that survives ends with the successful inbox start, which comes after the Started event. -/
theorem started_before_spawn_returns :
    (spawn 5 3 0 []).1.trace =
      [.producer 1, .recv 1 .initialized 0 true, .ev .initialized, .recv 1 .started 0 true, .ev .started,
       .inboxStart true] := by
  decide +kernel

/-- general form of the previous statement: for EVERY restart budget, chain length and crash script
    (crashes in Initialized / Started of any incarnation included), when `spawn` returns the actor is
    either alive with Started handled by its current incarnation (phase `started`: Initialized and
    Started delivered, in that order, no Stopped), or it has ended: final Stopped handled, inbox
    closed. Nothing in between is ever visible to the caller of Spawn. -/
theorem spawn_returns_started_or_ended (max mw : Nat) (script : List Outcome) :
    let s := (spawn (3 * script.length + 6) max mw script).1
    lifecycleOK s.trace = true ∧
    (s.stopped = false → (lcRun s.trace).phase = .started) ∧
    (s.stopped = true → (lcRun s.trace).phase = .stopped ∧ s.inboxOpen = false) := by
  have h := Shape.spawn_post (3 * script.length + 6) max mw script (by simp)
  exact ⟨h.ok, h.live, h.stopped⟩

/-- the state every history ends in: an actor that has ended - by stop, poison, crash beyond the
    budget - has handled Stopped as the LAST delivery of its last incarnation (phase `stopped`, and
    by `lifecycle_shape` nothing was delivered after it) and its inbox is closed, so nothing can be
    delivered later either; an actor that has not ended is in phase `started` (never observed
    half-initialised between batches). For every budget, chain, crash script and history. -/
theorem history_ends_stopped_or_started (max mw : Nat) (script : List Outcome) (batches : List (List Msg)) :
    let s := (runHistory max mw script batches).1
    (s.stopped = true → (lcRun s.trace).phase = .stopped ∧ s.inboxOpen = false) ∧
    (s.stopped = false → (lcRun s.trace).phase = .started) :=
  let h := Shape.history_post max mw script batches
  ⟨h.stopped, h.live⟩

/-- non-vacuity of both branches: a clean spawn is alive and started; a spawn whose Started handler
    panics with no budget ends stopped. -/
example : (spawn 6 0 0 []).1.stopped = false ∧ (spawn 12 0 0 [.ok, .panic]).1.stopped = true := by
  decide +kernel

/-- non-vacuity: a history with a crash during replay and a pill in the replay buffer (the shape of
    defect D2, DESIGN.md 10.4: the inbox re-opened after Stopped) is accepted and ends stopped. -/
example :
    let r := runHistory 1 0 [.ok, .ok, .panic] [[.user 1 none, .user 2 (some 0), .pill 1 false], [.user 3 none]]
    lifecycleOK r.1.trace = true ∧ r.1.stopped = true ∧ r.1.inboxOpen = false := by
  decide +kernel

end HW.C04
