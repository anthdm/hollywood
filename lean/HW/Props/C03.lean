/-
C03 — no lost wake-up: an accepted message is processed without further stimulus.
Theorems over the transition system `HW.Inbox` (one step per atomic action of actor/inbox.go), for
every number of senders, messages, stoppers, every batch size B ≥ 1 and EVERY interleaving.
-/
import HW.Proofs.InboxLive
import HW.Props.Facts
import HW.Proofs.ProcOpen
namespace HW.C03
open HW.Inbox

/-- "An actor never rests idle with a non-empty inbox": in every reachable state of a started, never
    stopped inbox with a backlog, either a worker holds the running token or some thread is at the
    very instruction that (re)schedules one. -/
theorem no_idle_backlog (B : Nat) (hB : 1 ≤ B) (senders : List (List Msg)) (nStop : Nat) (s : St)
    (hr : Reachable B senders nStop s) (hs : s.started = true) (hn : s.everStopped = false)
    (hq : s.q ≠ []) :
    s.status = .running ∨
    (∃ (t : Nat) (ms : List Msg), s.thr[t]? = some (Pc.sSched ms)) ∨
    (∃ t : Nat, s.thr[t]? = some Pc.wLen ∨ s.thr[t]? = some Pc.wSched) ∨
    (∃ t : Nat, s.thr[t]? = some Pc.stSched) :=
  Inbox.no_idle_backlog B hB senders nStop s hr hs hn hq

/-- "Whenever senders fall silent, every accepted message has been processed": at quiescence (no
    thread has a step left) of a never stopped inbox the queue is empty, the inbox is idle and
    everything pushed was delivered — no further send is needed. -/
theorem quiescent_all_processed (B : Nat) (hB : 1 ≤ B) (senders : List (List Msg)) (nStop : Nat) (s : St)
    (hr : Reachable B senders nStop s) (hq : quiescent s = true) (hn : s.everStopped = false) :
    s.started = true ∧ s.status = .idle ∧ s.q = [] ∧ s.delivered = s.pushed.map (·.2) :=
  Inbox.quiescent_all_delivered B hB senders nStop s hr hq hn

/-- "Eventually": the protocol has no infinite runs — from every initial configuration there is a bound
    on the number of steps ANY schedule can take (workers cannot keep re-spawning each other, a failed
    CAS is never retried in a loop). -/
theorem terminates (B : Nat) (hB : 1 ≤ B) (senders : List (List Msg)) (nStop : Nat) :
    ∃ N, ∀ sched, effSteps B (init senders nStop) sched ≤ N :=
  Inbox.terminates B hB senders nStop

/-- Liveness in its "every maximal run" form: every run that cannot be extended — which by `terminates`
    every run becomes after finitely many steps, under any scheduler that keeps running enabled threads
    (the fairness of the Go scheduler is the only assumption left) — of a never stopped inbox has an
    empty queue and has delivered everything that was accepted, with no further send needed. -/
theorem maximal_run_delivers_all (B : Nat) (hB : 1 ≤ B) (senders : List (List Msg)) (nStop : Nat) (sched : List Nat)
    (hmax : ∀ t, step B (runSched B (init senders nStop) sched) t = none)
    (hn : (runSched B (init senders nStop) sched).everStopped = false) :
    (runSched B (init senders nStop) sched).q = [] ∧
    (runSched B (init senders nStop) sched).delivered = (runSched B (init senders nStop) sched).pushed.map (·.2) :=
  Inbox.maximal_run_delivers_all B hB senders nStop sched hmax hn

/-- the batch size the code uses is ≥ 1 (regenerated constant). -/
theorem batch_size_pos : 1 ≤ Generated.messageBatchSize := by decide

/-- non-vacuity: the lost-wake-up window is reachable — the worker has found the queue empty and gone
    idle, a message is queued behind it, and the disjunct that saves the day is the worker's re-check. -/
example :
    let s := runSched 4096 (init [[7]] 0) [0, 0, 0, 0, 2, 2, 1, 2]
    s.status = .idle ∧ s.q = [7] ∧ s.thr[2]? = some Pc.wLen ∧ s.started = true ∧ s.everStopped = false := by
  decide

/-- Process-level half (actor/process.go): whatever the receiver does — panics in Initialized / Started /
    any message, restarts, replays, pills — an actor that is still registered at the end of a history (its
    inbox still accepts what senders send) is not stopped and its inbox IS open: so the premise `started` of
    `no_idle_backlog` above holds for every actor whose messages are being accepted, and accepted messages are
    not stranded in an inbox that was never opened. -/
theorem registered_actor_has_open_inbox (max mw : Nat) (script : List Proc.Outcome) (batches : List (List Proc.Msg))
    (hr : (Proc.runHistory max mw script batches).1.registered = true) :
    (Proc.runHistory max mw script batches).1.stopped = false ∧
    (Proc.runHistory max mw script batches).1.inboxOpen = true := by
  have hs := Proc.RegLive.triple.runHistory max mw script batches (fun _ => rfl) (fun _ h _ => h) hr
  exact ⟨hs, by simp [(Proc.Shape.rest_history max mw script batches).inbox, hs]⟩

/-- non-vacuity: a receiver that panics in Started on the initial spawn is restarted and ends registered with
    an open inbox (the case in which the spawning goroutine, not an inbox worker, runs the restart). -/
example : (Proc.runHistory 2 0 [.ok, .panic] [[.user 1 none]]).1.registered = true ∧
    (Proc.runHistory 2 0 [.ok, .panic] [[.user 1 none]]).1.inboxOpen = true ∧
    Proc.userRecvs (Proc.runHistory 2 0 [.ok, .panic] [[.user 1 none]]).1.trace = [(1, none)] := by
  decide +kernel

end HW.C03
