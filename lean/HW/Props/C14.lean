/-
C14 — RingBuffer is an unbounded, linearizable FIFO queue.
Property theorems only; the proofs are in HW/Proofs/Ring.lean (one method at a time) and
HW/Proofs/RingConcInv.lean, RingConc.lean (interleaved methods).
-/
import HW.Proofs.Ring
import HW.Proofs.RingConc
import HW.Props.Facts
namespace HW
namespace C14
variable {α : Type} [Inhabited α]

/-- a fresh ring of any capacity >= 1 satisfies the invariant and is empty. -/
theorem inv_new (size : Nat) (h : 1 ≤ size) :
    (Ring.new size : Ring α).Inv ∧ (Ring.new size : Ring α).abs = [] :=
  Ring.inv_new size h

/-- Push appends, whatever the head/tail position (growth and wrap included). -/
theorem push_refines (r : Ring α) (x : α) (h : r.Inv) :
    (r.push x).Inv ∧ (r.push x).abs = r.abs ++ [x] :=
  Ring.push_refines r x h

/-- PopN returns `false` iff empty, else the first `min n len` elements, and removes exactly those. -/
theorem popN_refines (r : Ring α) (n : Nat) (h : r.Inv) :
    (r.popN n).1.Inv ∧
    (r.popN n).2 = (if r.abs.isEmpty then none else some (r.abs.take n)) ∧
    (r.popN n).1.abs = r.abs.drop n :=
  Ring.popN_refines r n h

theorem pop_refines (r : Ring α) (h : r.Inv) :
    (r.pop).1.Inv ∧ (r.pop).2 = r.abs.head? ∧ (r.pop).1.abs = r.abs.tail :=
  Ring.pop_refines r h

/-- Len = number of queued elements (pushes minus popped elements; a `Nat`, never negative). -/
theorem len_refines (r : Ring α) : r.lenOf = r.abs.length :=
  Ring.len_refines r

/-- Main theorem: for every capacity >= 1 and EVERY operation sequence the ring buffer returns
    exactly what the abstract FIFO queue returns. -/
theorem refines_fifo (size : Nat) (h : 1 ≤ size) (ops : List (RingOp α)) :
    (Ring.new size : Ring α).run ops = Fifo.run [] ops :=
  Ring.refines_fifo size h ops

/-- Linearizability (argument, with its checked premise): every method is one critical section of
    one mutex and `Len` is one atomic load of the counter those sections update atomically
    (`Facts.ring_atomic`, regenerated from the source on every run). Hence every concurrent history is
    equivalent to the sequential history ordered by the `atomic.AddInt64` inside each critical section
    (lock acquisition for an empty pop), to which `refines_fifo` applies. The mutual-exclusion
    semantics of `sync.Mutex` is trusted. -/
theorem methods_are_atomic_sections :
    Generated.ringLockShape = [("Push", true), ("Pop", true), ("PopN", true)] ∧
    Generated.ringLenIsAtomicLoad = true ∧ Generated.ringLenOnlyAtomicWrites = true ∧
    Generated.ringLenAdds = [("Push", 1), ("Pop", 1), ("PopN", 1)] :=
  ⟨Facts.ring_atomic.1, Facts.ring_atomic.2.1, Facts.ring_atomic.2.2, Facts.ring_linearization_points⟩

/-- Linearizability, machine-checked for the fine-grained model `HW.RingConc` (one step per mutex
    acquisition, atomic add = linearization point, release, atomic load): for every program of every
    thread and EVERY interleaving, the results returned are exactly those of the sequential FIFO applied
    to the operations in linearization order — `Len` included, which reads the counter without the lock. -/
theorem linearizable (progs : List (List (RingOp Nat))) (sched : List Nat) :
    let s := RingConc.runSched (RingConc.init progs) sched
    Fifo.run [] (s.lin.map (·.1)) = s.lin.map (·.2) :=
  RingConc.linearizable progs sched

/-- mutual exclusion of the critical sections and counter = queue length in every reachable state. -/
theorem concurrent_safety (progs : List (List (RingOp Nat))) (sched : List Nat) :
    let s := RingConc.runSched (RingConc.init progs) sched
    (s.thr.countP RingConc.inCritical ≤ 1) ∧ (s.cnt = s.q.length) ∧
    ((s.thr.countP RingConc.inCritical = 1) ↔ s.lock.isSome = true) :=
  RingConc.safety progs sched

/-- non-vacuity: a wrapped ring that is about to grow satisfies the invariant. -/
example : ({ items := [30, 0, 10, 20], head := 1, tail := 0, len := 3 } : Ring Nat).Inv :=
  ⟨by decide, by decide, by decide, by decide⟩

example : ({ items := [30, 0, 10, 20], head := 1, tail := 0, len := 3 } : Ring Nat).abs = [10, 20, 30] := by
  decide

end C14
end HW
