/-
C08 — supervision tree: a stopping parent takes all descendants down first.
Full statement ("for all interleavings of the parent's shutdown with children being poisoned by
someone else") is FALSE for the code as it is (known finding KF-D12: a child that already has a
poison pill queued never cancels the parent's pill, so the parent waits forever; a child poisoned by
a third party has already left the parent's map, so the parent does not wait for it). What is proved
is the partial statement: without such third-party interference the shutdown of every tree is a
post-order.
-/
import HW.Proofs.Tree
import HW.Props.Facts
namespace HW.C08
open HW.Tree

/-- partial (no third party stops a descendant concurrently): for EVERY tree shape — any depth, any
    fan-out, any order among siblings — when a node handles Stopped it is already unregistered and
    every transitive child has handled Stopped and been unregistered; a node's stop context becomes
    done after its own Stopped and after the contexts of all its descendants. -/
theorem postorder_partial (pre : Path) (t : T) (hnd : (paths pre t).Nodup) :
    postorderOK (paths pre t) [] (stopTree pre t) = true := by
  -- the tree as a forest of one, nothing outside it
  have hp : pathsForest pre [t] = paths pre t := List.append_nil _
  have hs : stopForest pre [t] = stopTree pre t := List.append_nil _
  exact hs ▸ po_forest pre [t] (paths pre t) [] (hp ▸ hnd) fun q hq _ => .inl (hp ▸ hq)

/-- every actor of the tree handles Stopped exactly once. -/
theorem each_stopped_once (pre : Path) (t : T) (p : Path) :
    (stopTree pre t).count (.stopped p) = (paths pre t).count p :=
  countEv_tree pre t (.stopped p)

/-- the stopping parent's own context is the very last thing to become done. -/
theorem parent_context_done_last (pre : Path) (name : String) (cs : List T) :
    (stopTree pre (.node name cs)).getLast? = some (.done (pre ++ [name])) :=
  by simp [stopTree, List.getLast?_append]

/-- Children(): after a node has stopped, exactly its subtree has left the set of live actors. -/
theorem children_exact_after_stop (live : List Path) (p q : Path) :
    q ∈ stopAt live p ↔ q ∈ live ∧ q ≠ p ∧ below q p = false :=
  by simp [stopAt, List.mem_filter]

/-- Children() is one critical section of the children map (regenerated fact), so it returns the set
    of children at one instant. -/
theorem children_snapshot_atomic :
    Generated.safemapLockShape = [("Delete", true), ("ForEach", true), ("Get", true), ("Len", true), ("Set", true)] :=
  Facts.safemap_atomic

example :
    let t : T := .node "r" [.node "a" [.node "x" [], .node "y" []], .node "b" []]
    postorderOK (paths [] t) [] (stopTree [] t) = true ∧
    postorderOK (paths [] t) [] (stopTree [] t).reverse = false := by
  decide

end HW.C08
