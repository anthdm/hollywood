/-
C18 — the cluster membership view follows the provider's snapshots exactly.
-/
import HW.Proofs.ClusterHist
namespace HW.C18
open HW.Cluster

/-- after a snapshot has been processed, Members() equals the snapshot by member id — for any
    previous view and any snapshot (growing, shrinking, repeated, with duplicate entries). -/
theorem view_equals_snapshot (st : AgentSt) (snap : List Member) (h : idsNodup st.members) :
    idsNodup (handleMembers st snap).1.members ∧
    ∀ id, id ∈ ids (handleMembers st snap).1.members ↔ id ∈ ids snap :=
  ⟨handle_nodup st snap h, mem_ids_handle st snap⟩

/-- exactly one MemberJoinEvent for each member that was not in the previous view, exactly one
    MemberLeaveEvent for each that dropped out, none for members that stayed. -/
theorem events_exact (st : AgentSt) (snap : List Member) (h : idsNodup st.members) :
    (joinIds (handleMembers st snap).2).Nodup ∧ (leaveIds (handleMembers st snap).2).Nodup ∧
    (∀ id, id ∈ joinIds (handleMembers st snap).2 ↔ id ∈ ids snap ∧ id ∉ ids st.members) ∧
    (∀ id, id ∈ leaveIds (handleMembers st snap).2 ↔ id ∈ ids st.members ∧ id ∉ ids snap) := by
  rw [handle_joinIds, handle_leaveIds]
  exact ⟨nodup_except _ (nodup_mkSet snap), nodup_except _ h,
    fun id => by rw [mem_ids_except, mem_ids_mkSet], fun id => mem_ids_except⟩

/-- HasKind(k) is true exactly when some member of the current view advertises k (every snapshot
    contains the observing node, which advertises its local kinds). -/
theorem haskind_exact (localKinds : List String) (selfId : String) (st : AgentSt) (snap : List Member)
    (h : idsNodup st.members) (hk : KindsInv localKinds st)
    (hself : selfId ∈ ids snap) (hselfk : ∀ m ∈ snap, m.id = selfId → m.kinds = localKinds)
    (hselfold : ∀ m ∈ st.members, m.id = selfId → m.kinds = localKinds) :
    KindsInv localKinds (handleMembers st snap).1 ∧
    (∀ k, k ∈ (handleMembers st snap).1.kinds ↔ ∃ m ∈ (handleMembers st snap).1.members, k ∈ m.kinds) ∧
    (∀ m ∈ (handleMembers st snap).1.members, m.id = selfId → m.kinds = localKinds) := by
  have _ := h
  have h3 : ∀ m ∈ (handleMembers st snap).1.members, m.id = selfId → m.kinds = localKinds :=
    fun m hm hid => (mem_handle_sub st snap m hm).elim (hselfold m · hid) (hselfk m · hid)
  -- the node itself is in the new view, advertising `localKinds`
  have hloc : ∀ k, k ∈ localKinds → ∃ m ∈ (handleMembers st snap).1.members, k ∈ m.kinds := by
    intro k hk'
    obtain ⟨m, hm, hid⟩ := mem_ids.1 ((mem_ids_handle st snap selfId).2 hself)
    exact ⟨m, hm, by rw [h3 m hm hid]; exact hk'⟩
  -- so "`k` is a local kind" adds nothing to "some member of the new view advertises `k`"
  have h1 : KindsInv localKinds (handleMembers st snap).1 := by
    intro k
    rcases handle_kinds_eq st snap with ⟨hmem, hkinds⟩ | hkinds
    · rw [hkinds, mem_foldl_addKinds, hk k, hmem, or_assoc]
      simp only [List.mem_append, or_and_right, exists_or]
    · rw [hkinds, mem_rebuildKinds, or_iff_right_of_imp (hloc k)]
  exact ⟨h1, fun k => (h1 k).trans (or_iff_right_of_imp (hloc k)), h3⟩

/-- the agent's initial state satisfies the premises. -/
theorem initial_state (localKinds : List String) :
    idsNodup ({ kinds := localKinds } : AgentSt).members ∧ KindsInv localKinds { kinds := localKinds } := by
  constructor
  · simp [idsNodup, ids]
  · intro k; simp

/-- the invariant the one-step theorems need holds along every history. -/
theorem history_nodup (st : AgentSt) (h : idsNodup st.members) (snaps : List (List Member)) :
    idsNodup (runSnaps st snaps).1.members := by
  induction snaps generalizing st with
  | nil => exact h
  | cons s ss ih => exact ih _ (handle_nodup st s h)

/-- after ANY non-empty sequence of snapshots (growing, shrinking, repeated, with duplicate entries) Members() is
    the last snapshot, by member id. -/
theorem history_view_is_last_snapshot (st : AgentSt) (h : idsNodup st.members) (snaps : List (List Member))
    (last : List Member) (hl : snaps.getLast? = some last) :
    ∀ id, id ∈ ids (runSnaps st snaps).1.members ↔ id ∈ ids last := by
  have _ := h
  obtain ⟨ss, rfl⟩ := List.getLast?_eq_some_iff.mp hl
  rw [runSnaps_concat]
  exact mem_ids_handle _ last

/-- event accounting over the whole history: for every member id, joins − leaves published so far = (in the view
    now) − (in the view at the start): no event missing, doubled, or published for a member that stayed. -/
theorem history_events_balance (st : AgentSt) (h : idsNodup st.members) (snaps : List (List Member)) (id : String) :
    (joinIds (runSnaps st snaps).2).count id + (if id ∈ ids st.members then 1 else 0) =
    (leaveIds (runSnaps st snaps).2).count id + (if id ∈ ids (runSnaps st snaps).1.members then 1 else 0) := by
  induction snaps generalizing st with
  | nil => rfl
  | cons s ss ih =>
    rw [runSnaps_cons]
    simp only [joinIds_append, leaveIds_append, List.count_append]
    -- in one snapshot `id` joins or leaves at most once, and only if the two views differ on it
    obtain ⟨hj, hl, hjm, hlm⟩ := events_exact st s h
    have h1 : (joinIds (handleMembers st s).2).count id + (if id ∈ ids st.members then 1 else 0) =
        (leaveIds (handleMembers st s).2).count id +
          (if id ∈ ids (handleMembers st s).1.members then 1 else 0) := by
      rw [hj.count, hl.count]
      by_cases c1 : id ∈ ids st.members <;> by_cases c2 : id ∈ ids s <;>
        simp [c1, c2, hjm id, hlm id, mem_ids_handle st s id]
    have h2 := ih _ (handle_nodup st s h)
    omega

example :
    let a : Member := ⟨"A", "hA:1", ["k1"]⟩
    let b : Member := ⟨"B", "hB:1", ["k1", "k2"]⟩
    let s1 := (handleMembers { kinds := ["k1"] } [a, b, b]).1
    let r := handleMembers s1 [a]
    ids s1.members = ["A", "B"] ∧ s1.kinds = ["k1", "k2"] ∧ joinIds (handleMembers { kinds := ["k1"] } [a, b, b]).2 = ["A", "B"] ∧
    ids r.1.members = ["A"] ∧ r.1.kinds = ["k1"] ∧ leaveIds r.2 = ["B"] := by
  decide

end HW.C18
