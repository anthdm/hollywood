/-
C05 — a panicking Receive is contained and the actor resumes behind it.
-/
import HW.Proofs.ProcReplay
namespace HW.C05
open HW.Proc

/-- containment: no panic propagates out of the process, whatever the script and history. -/
theorem contained (max mw : Nat) (script : List Outcome) (batches : List (List Msg)) :
    (runHistory max mw script batches).2 = none :=
  Shape.runHistory_no_escape max mw script batches

/-- replay: over all incarnations the user messages received are a prefix of the history — each at
    most once, in the original order, with its own sender; the message that caused a panic is not
    delivered again; nothing sent later overtakes the replayed ones. -/
theorem replay_exactly_once_in_order (max mw : Nat) (script : List Outcome) (batches : List (List Msg)) :
    replayPrefixOK batches (runHistory max mw script batches).1.trace = true := by
  rw [replayPrefixOK, List.isPrefixOf_iff_prefix]
  exact (replay_history max mw script batches).1

/-- and an actor that is still alive at the end has received all of them. -/
theorem replay_complete_if_alive (max mw : Nat) (script : List Outcome) (batches : List (List Msg))
    (hne : ∀ b ∈ batches, b ≠ [])
    (hf : (runHistory max mw script batches).1.fuelOut = false)
    (ha : (runHistory max mw script batches).1.stopped = false) :
    userRecvs (runHistory max mw script batches).1.trace = allUsers batches :=
  have _ := And.intro hne hf  -- neither is needed
  replay_complete max mw script batches ha

/-- restart events carry the incremented count: they are numbered 1, 2, 3, … -/
theorem restart_events_numbered (max mw : Nat) (script : List Outcome) (batches : List (List Msg)) :
    restartsOK max (runHistory max mw script batches).1.trace = true :=
  Shape.restarts_ok max mw script batches

/-- non-vacuity: a panic on the 2nd of 4 messages: Stopped to the old incarnation, restart event 1,
    new incarnation initialised, then exactly messages 3 and 4. -/
example :
    (runHistory 2 0 [.ok, .ok, .ok, .panic] [[.user 1 none, .user 2 none, .user 3 none, .user 4 none]]).1.trace =
      [.producer 1, .recv 1 .initialized 0 true, .ev .initialized, .recv 1 .started 0 true, .ev .started, .inboxStart true,
       .recv 1 (.user 1 none) 0 true, .recv 1 (.user 2 none) 0 true,
       .recv 1 .stopped 0 true, .ev (.restarted 1),
       .producer 2, .recv 2 .initialized 0 true, .ev .initialized, .recv 2 .started 0 true, .ev .started,
       .recv 2 (.user 3 none) 0 true, .recv 2 (.user 4 none) 0 true, .inboxStart false] := by
  decide +kernel

end HW.C05
