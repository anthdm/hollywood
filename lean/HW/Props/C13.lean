/-
C13 — middleware wraps every delivery, in the configured order.
-/
import HW.Proofs.ProcShape
import HW.Model.Mw
namespace HW.C13
open HW.Proc

/-- every message a receiver sees — user messages, Initialized, Started, Stopped, on the normal,
    restart, poison and max-restarts paths — went through the whole chain given at spawn. -/
theorem every_delivery_wrapped (max mw : Nat) (script : List Outcome) (batches : List (List Msg)) :
    allWrapped mw (runHistory max mw script batches).1.trace = true :=
  ((Shape.WrapInv.inv mw).runHistory max mw script batches ⟨rfl, rfl⟩).2

/-- "the receiver last": on every path (spawn, restart, poison, max-restarts) the receiver at the
    inner end of the chain is the current incarnation - a chain composed around an earlier
    incarnation's receiver is never used (seed C13-r10m1: chain cached across a restart). -/
theorem chain_ends_at_current_receiver (max mw : Nat) (script : List Outcome) (batches : List (List Msg)) :
    chainTargetOK 0 (runHistory max mw script batches).1.trace = true :=
  Shape.chainTarget_of_lc _ {} (Shape.lifecycle_ok max mw script batches)

/-- the acceptor is not trivially true: a delivery to incarnation 1 after incarnation 2 was produced. -/
example : chainTargetOK 0 [.producer 1, .recv 1 .initialized 1 true, .producer 2, .recv 1 (.user 7 none) 1 true] = false := by
  decide

/-- order: applying the chain `[m₁ … mₙ]` runs m₁ outermost, …, mₙ innermost, the receiver last,
    each exactly once, for every chain length. -/
theorem chain_order (chain : List Nat) :
    Mw.run (Mw.apply chain) = chain.map Mw.Step.enter ++ [Mw.Step.recv] ++ chain.reverse.map Mw.Step.exit :=
  Mw.run_apply chain

example : Mw.run (Mw.apply [0, 1, 2]) =
    [.enter 0, .enter 1, .enter 2, .recv, .exit 2, .exit 1, .exit 0] := by decide

/-- exactly once: in one delivery through the chain `[m₁ … mₙ]` every middleware is entered as often
    as it is listed (once for a chain without repetition), left as often, and the receiver runs once —
    for every chain length, including the empty chain. -/
theorem each_exactly_once (chain : List Nat) (i : Nat) :
    (Mw.run (Mw.apply chain)).count (Mw.Step.enter i) = chain.count i ∧
    (Mw.run (Mw.apply chain)).count (Mw.Step.exit i) = chain.count i ∧
    (Mw.run (Mw.apply chain)).count Mw.Step.recv = 1 := by
  -- a count over `map` of a constructor: equal constructors compare their arguments, distinct ones never match
  rw [Mw.run_apply]
  simp [List.count_eq_countP, List.countP_map, Function.comp_def, Lean.Grind.beq_eq_decide_eq]

/-- the receiver is strictly inside: before it runs every middleware has been entered and none left;
    after it none is entered again. -/
theorem receiver_innermost (chain : List Nat) :
    ∃ pre post, Mw.run (Mw.apply chain) = pre ++ [Mw.Step.recv] ++ post ∧
      pre = chain.map Mw.Step.enter ∧ post = chain.reverse.map Mw.Step.exit :=
  ⟨_, _, Mw.run_apply chain, rfl, rfl⟩

example : (Mw.run (Mw.apply [4, 7])).count (Mw.Step.enter 7) = 1 := by decide

end HW.C13
