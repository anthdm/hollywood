/-
C20 — the self-managed provider keeps a correct member list through joins and failures.
Well-formedness: member hosts are pairwise distinct (GetByHost returns an arbitrary one of several
members sharing a host).
-/
import HW.Proofs.ClusterHist
namespace HW.C20
open HW.Cluster

/-- a handshake adds the peer, answers with the complete member list and reports the new list. -/
theorem handshake (st : ProvSt) (peer : Member) (h : idsNodup st.members) :
    idsNodup (provHandshake st peer).1.members ∧
    (∀ id, id ∈ ids (provHandshake st peer).1.members ↔ id ∈ ids st.members ∨ id = peer.id) ∧
    (provHandshake st peer).2 =
      [.agent (ids (provHandshake st peer).1.members), .reply (ids (provHandshake st peer).1.members)] := by
  obtain ⟨h1, h2, _⟩ := provAdd_spec st [peer] h
  exact ⟨h1, fun id => by rw [provHandshake_eq, h2]; exact or_congr_right List.mem_singleton, rfl⟩

/-- a member list adds every member in it. -/
theorem members_adds_all (st : ProvSt) (ms : List Member) (h : idsNodup st.members) :
    idsNodup (provMembers st ms).1.members ∧
    (∀ id, id ∈ ids (provMembers st ms).1.members ↔ id ∈ ids st.members ∨ id ∈ ids ms) ∧
    (provMembers st ms).2 = [.agent (ids (provMembers st ms).1.members)] :=
  provAdd_spec st ms h

/-- an unreachable report for a member's address removes that member, only that member, and tells the agent. -/
theorem leave_member_only (st : ProvSt) (addr : String) (m : Member) (h : idsNodup st.members)
    (hhosts : ∀ a ∈ st.members, ∀ b ∈ st.members, a.host = b.host → a = b)
    (hm : m ∈ st.members) (hh : m.host = addr) :
    idsNodup (provLeave st addr).1.members ∧
    (∀ id, id ∈ ids (provLeave st addr).1.members ↔ id ∈ ids st.members ∧ id ≠ m.id) ∧
    (provLeave st addr).2 = [.agent (ids (provLeave st addr).1.members)] := by
  rcases provLeave_cases st addr with ⟨_, hno⟩ | ⟨m', hm', hh', he⟩
  · exact absurd hh (hno m hm)
  · rw [he, hhosts m' hm' m hm (hh'.trans hh.symm)]
    exact ⟨nodup_setRemove _ h, fun id => mem_ids_setRemove, rfl⟩

/-- an unreachable report for an address that is not a member changes nothing (and the provider keeps
    running with its list intact: the handler is the identity on the state). -/
theorem leave_nonmember_noop (st : ProvSt) (addr : String) (h : ∀ m ∈ st.members, m.host ≠ addr) :
    provLeave st addr = (st, []) :=
  (provLeave_cases st addr).elim And.left fun ⟨m, hm, hh, _⟩ => absurd hh (h m hm)

/-- REFINEMENT: for all histories, in any order, with repeated and non-member reports, the provider's member list is
    (as a set of ids, duplicate free) exactly what the abstract set semantics `specRun` computes: a handshake adds the
    peer, a list adds all of it, an unreachable report removes the member at that address and only that one, a report
    for a non-member address removes nothing. Well-formedness: each member id has one address (`hostOf`), distinct ids
    have distinct addresses. -/
theorem history_refines_set_semantics (hostOf : String → String) (hinj : ∀ a b, hostOf a = hostOf b → a = b)
    (st : ProvSt) (h : idsNodup st.members) (hst : ∀ m ∈ st.members, m.host = hostOf m.id)
    (ops : List ProvOp) (hops : ∀ op ∈ ops, opWf hostOf op) :
    idsNodup (provRun st ops).members ∧
    (∀ m ∈ (provRun st ops).members, m.host = hostOf m.id) ∧
    (∀ id, id ∈ ids (provRun st ops).members ↔ id ∈ specRun hostOf (ids st.members) ops) :=
  provRun_refines hostOf hinj ops st h hst (ids st.members) (fun _ => Iff.rfl) hops

/-- every handled message reports the then-current list to the agent; only a non-member unreachable report is silent. -/
theorem every_step_reports (st : ProvSt) (op : ProvOp) :
    (provStep st op).2 = [] ∨ ProvOut.agent (ids (provStep st op).1.members) ∈ (provStep st op).2 := by
  cases op with
  | handshake p => exact Or.inr List.mem_cons_self
  | members ms => exact Or.inr List.mem_cons_self
  | leave addr =>
    show (provLeave st addr).2 = [] ∨ ProvOut.agent (ids (provLeave st addr).1.members) ∈ (provLeave st addr).2
    rcases provLeave_cases st addr with ⟨he, _⟩ | ⟨_, _, _, he⟩ <;> rw [he]
    · exact Or.inl rfl
    · exact Or.inr List.mem_cons_self

/-- non-vacuity of the refinement: join B, join C, B fails, B rejoins, B fails again, a report for a stranger. -/
example :
    let mk (id : String) : Member := ⟨id, "h" ++ id ++ ":1", ["k1"]⟩
    let ops : List ProvOp := [.handshake (mk "B"), .members [mk "C"], .leave "hB:1", .handshake (mk "B"), .leave "hB:1", .leave "hZ:1"]
    ids (provRun { members := [mk "A"] } ops).members = ["A", "C"] ∧
    specRun (fun id => "h" ++ id ++ ":1") ["A"] ops = ["A", "C"] := by
  decide

example :
    let a : Member := ⟨"A", "hA:1", ["k1"]⟩
    let b : Member := ⟨"B", "hB:1", ["k1"]⟩
    let s1 := (provHandshake { members := [a] } b).1
    ids s1.members = ["A", "B"] ∧ (provLeave s1 "hZ:1").2 = [] ∧ ids (provLeave s1 "hZ:1").1.members = ["A", "B"] ∧
    ids (provLeave s1 "hB:1").1.members = ["A"] := by
  decide

end HW.C20
