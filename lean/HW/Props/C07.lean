/-
C07 — Stop/Poison: drain, stop, then signal — and every caller is signalled.
Full statement: every pill of every history is cancelled. That is FALSE for the code as it is
(known finding KF-D4, proved below with a concrete witness); what holds is `cancel_last` for all
histories and `every_pill_cancelled_partial` for histories with at most one pill whose actor is not
terminated by the restart budget first.
-/
import HW.Proofs.ProcCancel
import HW.Proofs.ProcPill
import HW.Model.Engine
namespace HW.C07
open HW.Proc

/-- a Stop/Poison context becomes done only after the target has handled its final Stopped and is
    unregistered and, for Poison, after every message that precedes the pill has been handled. -/
theorem cancel_last (max mw : Nat) (script : List Outcome) (batches : List (List Msg)) :
    cancelOK batches (runHistory max mw script batches).1.trace = true :=
  cancel_ok max mw script batches

/-- partial: with at most one pill in the history and the restart budget not exhausted, the pill is
    cancelled exactly once — also when the actor crashes while draining behind it. -/
theorem every_pill_cancelled_partial (max mw : Nat) (script : List Outcome) (batches : List (List Msg))
    (hne : ∀ b ∈ batches, b ≠ [])
    (h1 : (pillsOf batches.flatten).length ≤ 1)
    (hf : (runHistory max mw script batches).1.fuelOut = false)
    (hm : Ev.ev .maxRestarts ∉ (runHistory max mw script batches).1.trace) :
    allPillsCancelled batches (runHistory max mw script batches).1.trace = true :=
  have _ := And.intro hne hf  -- neither is needed
  single_pill_cancelled max mw script batches h1 hm

/-- the full statement does not hold: a second pill behind the one that stops the actor is never
    cancelled (known finding KF-D4; the same witness is replayed on the implementation on every run). -/
theorem every_pill_cancelled_full_is_false :
    allPillsCancelled [[.pill 1 true, .pill 2 false]] (runHistory 1 2 [] [[.pill 1 true, .pill 2 false]]).1.trace = false := by
  decide +kernel

/-- poison pills are never visible to Receive: what a receiver can see (`LMsg`) has no pill
    constructor, and `invokeMsg` delivers nothing for a pill. -/
theorem pills_invisible (s : PSt) (id : Nat) (g : Bool) : invokeMsg s (.pill id g) = (s, none) := rfl

/-- non-vacuity: a crash while draining behind a graceful pill; the pill is still honoured. -/
example :
    let b := [[Msg.pill 1 true, .user 1 none, .user 2 none, .user 3 none]]
    let r := runHistory 1 0 [.ok, .ok, .ok, .panic] b
    cancelsOf r.1.trace = [1] ∧ userRecvs r.1.trace = [(1, none), (2, none), (3, none)] ∧ cancelOK b r.1.trace = true := by
  decide +kernel

/-- "… also for an unknown or already stopped PID": when no process is registered under the PID's id (never spawned,
    already stopped and unregistered, or a nil PID), Stop / Poison publish exactly one DeadLetterEvent carrying that
    target and return a context that is done at once — for every engine state and every PID. -/
theorem unknown_pid_done_at_once (e : Engine.Eng) (t : Option Engine.Key)
    (h : ∀ k, t = some k → e.registered k.id = false) :
    Engine.poison e t = .deadLetterDone t := by
  cases t with
  | none => rfl
  | some k => simp [Engine.poison, h k rfl]

/-- and only then: a pill for a registered id is handed to that process (whose context is governed by `cancel_last`). -/
theorem known_pid_queued (e : Engine.Eng) (k : Engine.Key) (h : e.registered k.id = true) :
    Engine.poison e (some k) = .queued k.id := by
  simp [Engine.poison, h]

end HW.C07
