/-
C02 — an actor processes one message at a time (serial, race-free Receive).
-/
import HW.Proofs.Inbox
import HW.Proofs.ProcOpen
import HW.Props.Facts
namespace HW.C02
open HW.Inbox

/-- In every reachable state, for any number of concurrent senders, stoppers and workers and every
    interleaving, at most one goroutine is inside the actor's Receive (an inbox worker inside
    `Invoke`, or the spawning goroutine delivering Initialized/Started), provided the inbox is not
    re-opened after a Stop (an obligation on process.go, discharged for the process model by
    `inbox_opened_at_most_once` below). -/
theorem mutex (B : Nat) (hB : 1 ≤ B) (senders : List (List Msg)) (nStop : Nat) (s : St)
    (hr : Reachable B senders nStop s) (hp : s.restartedAfterStop = false) :
    nInside s ≤ 1 :=
  Inbox.mutex B hB senders nStop s hr hp

/-- The obligation on process.go is discharged for the life-cycle model: for every restart budget,
    chain, crash script and history the inbox of a process is opened at most once in its life (a
    restart finds it running: its `inbox.Start` is a no-op; a process stopped during replay does not
    re-open it) — so `restartedAfterStop` stays false. -/
theorem inbox_opened_at_most_once (max mw : Nat) (script : List Proc.Outcome) (batches : List (List Proc.Msg)) :
    Proc.noReopen (Proc.runHistory max mw script batches).1.trace = true := by
  simpa [Proc.noReopen, Proc.opens] using (Proc.OpenedOnce.triple.runHistory max mw script batches
    ⟨by simp [Proc.opens], by simp [Proc.opens]⟩ (fun _ h _ => h)).1

/-- Happens-before between consecutive invocations rests on Go atomics: a worker leaves `Receive`
    before its CAS(running,idle); the next worker is created by the goroutine whose CAS(idle,running)
    succeeded. The protocol constants this argument uses are the ones in the source. -/
theorem status_constants : Generated.statusOrder = ["stopped", "starting", "idle", "running"] := by decide

/-- non-vacuity: a state with one worker inside Receive while a second sender has already pushed. -/
example :
    let s := runSched 1 (init [[1], [2]] 0) [0, 0, 0, 1, 0, 3, 3, 2]
    nInside s = 1 ∧ s.q = [2] ∧ s.restartedAfterStop = false := by
  decide

end HW.C02
