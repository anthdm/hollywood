/-
C16 — no inbound envelope can crash a node or reach an unaddressed actor.
The reader is modelled as the total function `decode`; "does not panic" is the statement that the
real reader agrees with this total function on every generated envelope (correspondence), the
theorems below say what the total function guarantees for EVERY envelope.
-/
import HW.Proofs.Wire
namespace HW.C16
open HW.Wire
variable {P : Type}

/-- whatever the envelope (indices out of range or negative, empty tables, unknown type names,
    undecodable payloads), handling it ends in one of two ways: all messages handled, or an error
    that ends this stream — there is no third outcome. -/
theorem outcome_total (c : Codec P) (env : Envelope) :
    (decode c env).2 = .ok ∨ (decode c env).2 = .err := by
  cases h : (decode c env).2 <;> simp

/-- a message is delivered only to the target and with the type that the message's own valid
    indices name; its sender is the entry its sender index names, or none if it names no entry. -/
theorem only_addressed (c : Codec P) (env : Envelope) (d : Delivery P) (h : d ∈ (decode c env).1) :
    ∃ m ∈ env.messages, ∃ tname,
      idx env.typeNames m.typeIdx = some tname ∧
      idx env.targets m.targetIdx = some d.target ∧
      c.deserialize m.data tname = some d.payload ∧
      d.sender = idx env.senders m.senderIdx :=
  have ⟨m, hm, hd⟩ := decodeMsgs_justified c env env.messages d h
  ⟨m, hm, decodeMsg_eq_some.1 hd⟩

/-- an index that is negative or beyond its table never yields an element. -/
theorem idx_out_of_range {α : Type} (l : List α) (i : Int) (h : i < 0 ∨ (l.length : Int) ≤ i) :
    idx l i = none := by
  unfold idx
  split
  · rfl
  · exact List.getElem?_eq_none (by omega)

/-- at most one delivery per message; all of them iff no error. -/
theorem count (c : Codec P) (env : Envelope) :
    (decode c env).1.length ≤ env.messages.length ∧
    ((decode c env).2 = .ok → (decode c env).1.length = env.messages.length) :=
  decodeMsgs_count c env env.messages

/-- non-vacuity: a hostile envelope (negative, huge, valid indices mixed) is handled without a third
    outcome: the valid first message is delivered, the second ends the stream. -/
example :
    decode demoCodec
      { typeNames := ["odd"], targets := [⟨"n", "x"⟩], senders := [],
        messages := [⟨[1], 0, 7, 0⟩, ⟨[1], 0, 0, 5⟩, ⟨[1], 0, -1, 0⟩] } =
    ([⟨⟨"n", "x"⟩, 1, none⟩], .err) := by decide

end HW.C16
