import HW.Model.Tree
namespace HW.Tree

theorem postorderOK_append (all : List Path) : ∀ (a seen b : List Ev),
    postorderOK all seen (a ++ b) = (postorderOK all seen a && postorderOK all (seen ++ a) b)
  | [], seen, b => by rw [List.append_nil]; rfl
  | e :: a, seen, b => by
    simp only [List.cons_append, postorderOK]
    rw [postorderOK_append all a (seen ++ [e]) b, Bool.and_assoc, List.append_assoc]; rfl

def Ev.path : Ev → Path
  | .unregister p | .stopped p | .done p => p

theorem count_own (p : Path) (e : Ev) :
    [Ev.unregister p, .stopped p, .done p].count e = [p].count e.path := by
  cases e <;> simp [Ev.path, List.count_cons]

mutual
/-- every node emits each of its three events once. -/
theorem countEv_tree : ∀ (pre : Path) (t : T) (e : Ev),
    (stopTree pre t).count e = (paths pre t).count e.path
  | pre, .node name cs, e => by
    rw [stopTree, paths, List.count_append, countEv_forest, count_own, Nat.add_comm,
      ← List.count_append]; rfl
theorem countEv_forest : ∀ (pre : Path) (cs : List T) (e : Ev),
    (stopForest pre cs).count e = (pathsForest pre cs).count e.path
  | pre, [], e => rfl
  | pre, c :: cs, e => by
    rw [stopForest, pathsForest, List.count_append, List.count_append, countEv_tree,
      countEv_forest]
end

/-- all three events of `q` have been seen. -/
def Seen3 (seen : List Ev) (q : Path) : Prop :=
  Ev.unregister q ∈ seen ∧ Ev.stopped q ∈ seen ∧ Ev.done q ∈ seen

theorem Seen3.mono {seen seen' : List Ev} {q : Path} (h : Seen3 seen q)
    (hs : ∀ e ∈ seen, e ∈ seen') : Seen3 seen' q :=
  ⟨hs _ h.1, hs _ h.2.1, hs _ h.2.2⟩

theorem seen3_of_count {evs : List Ev} {ps : List Path} (hc : ∀ e, evs.count e = ps.count e.path)
    {q : Path} (h : q ∈ ps) : Seen3 evs q :=
  have hm (e : Ev) (he : e.path = q) : e ∈ evs :=
    List.count_pos_iff.1 (by rw [hc, he]; exact List.count_pos_iff.2 h)
  ⟨hm _ rfl, hm _ rfl, hm _ rfl⟩

theorem postorderOK_own {all : List Path} {seen : List Ev} {p : Path}
    (h : ∀ q ∈ all, below q p = true → Seen3 seen q) :
    postorderOK all seen [.unregister p, .stopped p, .done p] = true := by
  simp only [postorderOK, Bool.and_true, Bool.true_and, Bool.and_eq_true, List.all_eq_true,
    Bool.or_eq_true, Bool.not_eq_true', List.contains_iff_mem, List.mem_append]
  refine ⟨⟨.inr List.mem_cons_self, fun q hq => ?_⟩, .inr List.mem_cons_self, fun q hq => ?_⟩ <;>
    cases hb : below q p
  · exact .inl rfl
  · exact .inr ⟨.inl (h q hq hb).2.1, .inl (h q hq hb).1⟩
  · exact .inl rfl
  · exact .inr (.inl (.inl (h q hq hb).2.2))

theorem below_iff (q p : Path) : below q p = true ↔ p <+: q ∧ p.length < q.length := by
  simp [below, List.isPrefixOf_iff_prefix]

theorem below_irrefl (p : Path) : below p p = false := by
  simp [below]

theorem below_of_below_snoc {q p : Path} {n : String} (h : below q (p ++ [n]) = true) :
    below q p = true := by
  rw [below_iff, List.length_append] at h
  exact (below_iff ..).2 ⟨(List.prefix_append _ _).trans h.1, Nat.lt_of_succ_lt h.2⟩

theorem snoc_prefix_inj {p q : Path} {n m : String} (h1 : (p ++ [n]) <+: q) (h2 : (p ++ [m]) <+: q) :
    n = m := by
  -- two prefixes of `q` of the same length
  have h := List.prefix_of_prefix_length_le h1 h2 (by simp)
  simpa using h

mutual
theorem prefix_of_mem_paths : ∀ (pre : Path) (t : T) (q : Path), q ∈ paths pre t → pre <+: q
  | pre, .node n cs, q, h => by
    rw [paths, List.mem_cons] at h
    exact (List.prefix_append pre [n]).trans
      (h.elim (fun e => e ▸ List.prefix_refl _) (prefix_of_mem_pathsForest _ cs q))
theorem prefix_of_mem_pathsForest : ∀ (pre : Path) (cs : List T) (q : Path),
    q ∈ pathsForest pre cs → pre <+: q
  | pre, [], q, h => nomatch h
  | pre, c :: cs, q, h => by
    rw [pathsForest, List.mem_append] at h
    exact h.elim (prefix_of_mem_paths pre c q) (prefix_of_mem_pathsForest pre cs q)
end

/-- a path of the forest under `p` that extends `p ++ [n]` lies under a root named `n`. -/
theorem root_mem_of_prefix {p q : Path} {n : String} : ∀ {cs : List T},
    q ∈ pathsForest p cs → (p ++ [n]) <+: q → p ++ [n] ∈ pathsForest p cs
  | [], h, _ => nomatch h
  | .node m cs' :: cs, h, hp => by
    rw [pathsForest, List.mem_append, paths] at h ⊢
    refine h.imp (fun h => ?_) (root_mem_of_prefix · hp)
    have hm : (p ++ [m]) <+: q :=
      (List.mem_cons.1 h).elim (· ▸ List.prefix_refl _) (prefix_of_mem_pathsForest _ _ _)
    rw [snoc_prefix_inj hp hm]; exact List.mem_cons_self

/-- context condition: every path of `all` strictly below `p` is a path of the forest under `p` or has
    already completed. -/
def Ctx (all : List Path) (seen : List Ev) (p : Path) (cs : List T) : Prop :=
  ∀ q ∈ all, below q p = true → q ∈ pathsForest p cs ∨ Seen3 seen q

/-- the events `evs` complete part of the forest; `cs'` is what is left of it. -/
theorem Ctx.step {all : List Path} {seen evs : List Ev} {p : Path} {cs cs' : List T}
    (h : Ctx all seen p cs) (hq : ∀ q ∈ pathsForest p cs, q ∈ pathsForest p cs' ∨ Seen3 evs q) :
    Ctx all (seen ++ evs) p cs' := fun q hqa hb =>
  (h q hqa hb).elim (fun hm => (hq q hm).imp_right (·.mono fun _ => List.mem_append_right _))
    fun hs => .inr (hs.mono fun _ => List.mem_append_left _)

/-- into the first subtree; siblings have distinct names, so nothing below it lies elsewhere. -/
theorem Ctx.child {all : List Path} {seen : List Ev} {p : Path} {n : String} {cs' cs : List T}
    (h : Ctx all seen p (.node n cs' :: cs))
    (hd : ∀ a ∈ paths p (.node n cs'), ∀ b ∈ pathsForest p cs, a ≠ b) :
    Ctx all seen (p ++ [n]) cs' := fun q hq hb =>
  (h q hq (below_of_below_snoc hb)).imp_left fun hm => by
    rw [pathsForest, List.mem_append, paths, List.mem_cons] at hm
    rcases hm with (rfl | hm) | hm
    · rw [below_irrefl] at hb; cases hb
    · exact hm
    · exact absurd rfl
        (hd _ List.mem_cons_self _ (root_mem_of_prefix hm ((below_iff _ _).1 hb).1))

mutual
/-- the tree half of the induction; the recursion is on `t`, the `match` only names its root and
    children. Use `po_forest` (a single tree is the forest `[t]`). -/
theorem po_tree : ∀ (pre : Path) (t : T) (all : List Path) (seen : List Ev),
    (paths pre t).Nodup → (match t with | .node name cs => Ctx all seen (pre ++ [name]) cs) →
    postorderOK all seen (stopTree pre t) = true
  | pre, .node name cs, all, seen, hnd, (hctx : Ctx all seen (pre ++ [name]) cs) => by
    rw [paths, List.nodup_cons] at hnd
    rw [stopTree, postorderOK_append, po_forest _ cs all seen hnd.2 hctx, Bool.true_and]
    refine postorderOK_own fun q hq hb => ?_
    exact (hctx.step (cs' := []) (fun q hm => .inr (seen3_of_count (countEv_forest _ _) hm)) q hq hb).resolve_left
      (nomatch ·)
/-- the shutdown of a forest under `p` is accepted in any context: `all` may hold more paths than the
    forest's and `seen` the events before it, as long as what `all` has below `p` is in the forest or
    complete (`Ctx`). The induction enters a subtree with `all` unchanged and `seen` grown. -/
theorem po_forest : ∀ (p : Path) (cs : List T) (all : List Path) (seen : List Ev),
    (pathsForest p cs).Nodup → Ctx all seen p cs →
    postorderOK all seen (stopForest p cs) = true
  | p, [], all, seen, _, _ => rfl
  | p, .node n cs' :: cs, all, seen, hnd, hctx => by
    rw [pathsForest, List.nodup_append] at hnd
    rw [stopForest, postorderOK_append, po_tree p (.node n cs') all seen hnd.1 (hctx.child hnd.2.2),
      po_forest p cs all _ hnd.2.1 (hctx.step fun q hm => ?_)]
    · rfl
    · rw [pathsForest, List.mem_append] at hm
      exact hm.symm.imp_right (seen3_of_count (countEv_tree _ _))
end

theorem count_forest : ∀ (pre : Path) (cs : List T) (p : Path),
    (stopForest pre cs).count (.stopped p) = (pathsForest pre cs).count p :=
  fun pre cs p => countEv_forest pre cs (.stopped p)

end HW.Tree
