import HW.Model.ClusterSys
import HW.Proofs.Cluster
/-! Basic facts about the multi-node model: `getNode`/`setNode`, `sortById`, `find?` on the
    `activated` table, what a notification does to its receiver, `deliver` and `drain`. -/
namespace HW.ClusterSys
open HW.Cluster

theorem mem_insertSorted {m x : Member} {l : List Member} : x ∈ insertSorted m l ↔ x = m ∨ x ∈ l := by
  induction l with
  | nil => simp [insertSorted]
  | cons y ys ih =>
    unfold insertSorted
    split
    · simp
    · simp [ih, or_left_comm]

theorem mem_sortById {l : List Member} {x : Member} : x ∈ sortById l ↔ x ∈ l := by
  have h : ∀ acc : List Member, x ∈ l.foldl (fun acc m => insertSorted m acc) acc ↔ x ∈ acc ∨ x ∈ l := by
    induction l with
    | nil => simp
    | cons y ys ih => intro acc; simp [ih, mem_insertSorted, or_assoc, or_left_comm]
  simp [sortById, h]

theorem eq_of_map_eq {α β} {f : α → β} {l : List α} (hn : (l.map f).Nodup) {x y : α}
    (hx : x ∈ l) (hy : y ∈ l) (h : f x = f y) : x = y := by
  induction l with
  | nil => cases hx
  | cons z zs ih =>
    simp only [List.map_cons, List.nodup_cons, List.mem_map, not_exists, not_and] at hn
    rcases List.mem_cons.mp hx with rfl | hx' <;> rcases List.mem_cons.mp hy with rfl | hy'
    · rfl
    · exact absurd h.symm (hn.1 y hy')
    · exact absurd h (hn.1 x hx')
    · exact ih hn.2 hx' hy'

theorem getNode_some {s : Sys} {id : String} {n : Node} (h : getNode s id = some n) :
    n ∈ s.nodes ∧ n.id = id :=
  ⟨List.mem_of_find?_eq_some h, by simpa using List.find?_some h⟩

theorem getNode_none {s : Sys} {id : String} (h : getNode s id = none) : ∀ n ∈ s.nodes, n.id ≠ id := by
  simpa only [getNode, List.find?_eq_none, decide_eq_true_iff] using h

theorem getNode_of_mem {s : Sys} {n : Node} (h : n ∈ s.nodes) : ∃ n', getNode s n.id = some n' := by
  cases hf : getNode s n.id with
  | some n' => exact ⟨n', rfl⟩
  | none => exact absurd rfl (getNode_none hf n h)

theorem getNode_of_mem_nodup {s : Sys} {n : Node} (hnd : (s.nodes.map (·.id)).Nodup) (h : n ∈ s.nodes) :
    getNode s n.id = some n := by
  obtain ⟨n', hn'⟩ := getNode_of_mem h
  obtain ⟨hm, hid⟩ := getNode_some hn'
  rw [hn', eq_of_map_eq hnd hm h hid]

@[simp] theorem setNode_pool (s : Sys) (n : Node) : (setNode s n).pool = s.pool := rfl
@[simp] theorem setNode_log (s : Sys) (n : Node) : (setNode s n).log = s.log := rfl

theorem setNode_ids (s : Sys) (n : Node) : (setNode s n).nodes.map (·.id) = s.nodes.map (·.id) :=
  map_overwrite Node.id

theorem mem_setNode {s : Sys} {n y : Node} (h : y ∈ (setNode s n).nodes) :
    y = n ∨ (y ∈ s.nodes ∧ y.id ≠ n.id) :=
  mem_overwrite Node.id h

theorem forall_setNode {P : Node → Prop} {s : Sys} {n : Node} (hn : P n) (hs : ∀ y ∈ s.nodes, P y) :
    ∀ y ∈ (setNode s n).nodes, P y :=
  fun y hy => (mem_setNode hy).elim (fun e => e ▸ hn) fun h => hs y h.1

theorem mem_setNode_of_ne {s : Sys} {n y : Node} (hy : y ∈ s.nodes) (hne : y.id ≠ n.id) :
    y ∈ (setNode s n).nodes :=
  List.mem_map.mpr ⟨y, hy, if_neg hne⟩

theorem getActiveByID_none {n : Node} {k : String} :
    getActiveByID n k = none ↔ n.agent.activated.find? (·.1 = k) = none :=
  Option.map_eq_none_iff

theorem addActivated_members (a : AgentSt) (pid : Pid) : (addActivated a pid).members = a.members := by
  unfold addActivated; split <;> rfl

theorem addActivated_find (a : AgentSt) (pid : Pid) (k : String) :
    (addActivated a pid).activated.find? (·.1 = k) =
      (a.activated.find? (·.1 = k)).or (if pid.2 = k then some (pid.2, pid) else none) := by
  unfold addActivated
  split
  · -- the id is known: the table stays, and the lookup finds the entry that was there
    rename_i h
    split
    · rename_i e
      subst e
      obtain ⟨x, hx, hk⟩ := List.any_eq_true.mp h
      cases hf : a.activated.find? (·.1 = pid.2) with
      | some v => rfl
      | none => exact absurd hk (by simpa using List.find?_eq_none.mp hf x hx)
    · simp
  · simp only [List.find?_append, List.find?_cons, List.find?_nil]
    by_cases e : pid.2 = k <;> simp [e]

theorem addActivated_keys (a : AgentSt) (pid : Pid) (h : ∀ e ∈ a.activated, e.1 = e.2.2) :
    ∀ e ∈ (addActivated a pid).activated, e.1 = e.2.2 := by
  unfold addActivated
  split
  · exact h
  · intro e he
    rcases List.mem_append.mp he with he | he
    · exact h e he
    · simp at he; subst he; rfl

theorem removeActivated_find (a : AgentSt) (pid : Pid) (k : String) :
    (removeActivated a pid).activated.find? (·.1 = k) =
      if k = pid.2 then none else a.activated.find? (·.1 = k) := by
  unfold removeActivated
  split
  · rename_i e
    subst e
    simp [List.find?_eq_none]
  · rename_i h
    simp only [List.find?_filter]
    congr 1
    funext x
    by_cases hk : x.1 = k
    · subst hk
      simp [h]
    · simp [hk]

theorem removeActivated_keys (a : AgentSt) (pid : Pid) (h : ∀ e ∈ a.activated, e.1 = e.2.2) :
    ∀ e ∈ (removeActivated a pid).activated, e.1 = e.2.2 :=
  fun e he => h e (List.mem_filter.mp he).1

def applyNote : Note → AgentSt → AgentSt
  | .activation pid, a => addActivated a pid
  | .topology pids, a => pids.foldl addActivated a
  | .deactivation pid, a => removeActivated a pid

theorem applyNote_members (note : Note) (a : AgentSt) : (applyNote note a).members = a.members := by
  cases note with
  | activation pid => exact addActivated_members a pid
  | deactivation pid => rfl
  | topology pids =>
    exact List.foldlRecOn (motive := fun b => b.members = a.members) pids addActivated rfl
      fun b hb p _ => (addActivated_members b p).trans hb

theorem applyNote_keys (note : Note) (a : AgentSt) (h : ∀ e ∈ a.activated, e.1 = e.2.2) :
    ∀ e ∈ (applyNote note a).activated, e.1 = e.2.2 := by
  cases note with
  | activation pid => exact addActivated_keys a pid h
  | deactivation pid => exact removeActivated_keys a pid h
  | topology pids =>
    exact List.foldlRecOn (motive := fun b => ∀ e ∈ b.activated, e.1 = e.2.2) pids addActivated h
      fun b hb p _ => addActivated_keys b p hb

/-- the field `handle` of `Spec` (`HW.Proofs.ClusterSysRound`) at `f = applyNote note`. -/
theorem handleNote_eq (s : Sys) (n : Node) (note : Note) :
    ∃ n' : Node, n'.id = n.id ∧ n'.agent = applyNote note n.agent ∧
      (handleNote s n note).nodes = (setNode s n').nodes ∧ (handleNote s n note).pool = s.pool := by
  cases note with
  | activation pid => exact ⟨{ n with agent := addActivated n.agent pid }, rfl, rfl, rfl, rfl⟩
  | topology pids => exact ⟨{ n with agent := pids.foldl addActivated n.agent }, rfl, rfl, rfl, rfl⟩
  | deactivation pid =>
    simp only [handleNote]
    split
    · exact ⟨{ n with agent := removeActivated n.agent pid, actors := n.actors.filter (· ≠ pid.2) },
        rfl, rfl, rfl, rfl⟩
    · exact ⟨{ n with agent := removeActivated n.agent pid }, rfl, rfl, rfl, rfl⟩

theorem deliver_eq {s : Sys} {i : Nat} (hlt : i < s.pool.length) :
    deliver s i = match getNode s (s.pool[i]).1 with
      | none => { s with pool := s.pool.eraseIdx i }
      | some n => handleNote { s with pool := s.pool.eraseIdx i } n (s.pool[i]).2 := by
  unfold deliver
  rw [List.getElem?_eq_getElem hlt]
  rfl

theorem deliver_pool {s : Sys} {i : Nat} (hlt : i < s.pool.length) :
    (deliver s i).pool = s.pool.eraseIdx i := by
  rw [deliver_eq hlt]
  split
  · rfl
  · obtain ⟨_, _, _, _, h⟩ := handleNote_eq { s with pool := s.pool.eraseIdx i } ‹Node› (s.pool[i]).2
    exact h

theorem mem_eraseIdx_of_ne {α} {l : List α} {i : Nat} {x : α} (hx : x ∈ l) (hlt : i < l.length)
    (hne : x ≠ l[i]) : x ∈ l.eraseIdx i := by
  obtain ⟨j, hj, rfl⟩ := List.getElem_of_mem hx
  exact List.mem_eraseIdx_iff_getElem.mpr ⟨j, hj, fun e => hne (by subst e; rfl), rfl⟩

theorem drain_ind {P : Sys → Prop} (hstep : ∀ s i, P s → i < s.pool.length → P (deliver s i))
    (order : List Nat) {s : Sys} (hs : P s) (hlen : s.pool.length ≤ order.length) :
    P (drain s order) ∧ (drain s order).pool = [] := by
  induction order generalizing s with
  | nil => exact ⟨hs, List.eq_nil_of_length_eq_zero (Nat.le_zero.mp hlen)⟩
  | cons i is ih =>
    rw [List.length_cons] at hlen
    unfold drain
    by_cases h0 : s.pool.length = 0
    · -- nothing to deliver
      have : deliver s 0 = s := by unfold deliver; rw [List.getElem?_eq_none (Nat.le_of_eq h0)]
      rw [if_pos h0, this]
      exact ih hs (h0 ▸ Nat.zero_le _)
    · rw [if_neg h0]
      have hlt : i % s.pool.length < s.pool.length := Nat.mod_lt _ (Nat.pos_of_ne_zero h0)
      refine ih (hstep s _ hs hlt) ?_
      rw [deliver_pool hlt, List.length_eraseIdx, if_pos hlt]
      exact Nat.sub_le_of_le_add hlen

end HW.ClusterSys
