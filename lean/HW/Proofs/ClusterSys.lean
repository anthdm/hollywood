import HW.Proofs.ClusterSysRound
namespace HW.ClusterSys
open HW.Cluster

/-- every member's view is the set of nodes of the system. -/
def ViewOK (s : Sys) : Prop := ∀ n ∈ s.nodes, ∀ id, id ∈ ids n.agent.members ↔ ∃ m ∈ s.nodes, m.id = id

/-- all members resolve every id to the same PID. -/
def Agree (s : Sys) : Prop := ∀ n ∈ s.nodes, ∀ m ∈ s.nodes, ∀ k, getActiveByID n k = getActiveByID m k

/-- a quiescent, consistent cluster. -/
structure Consistent (s : Sys) : Prop where
  poolEmpty : s.pool = []
  nodesNodup : (s.nodes.map (·.id)).Nodup
  membersNodup : ∀ n ∈ s.nodes, idsNodup n.agent.members
  view : ViewOK s
  agree : Agree s
  keys : ∀ n ∈ s.nodes, ∀ a ∈ n.agent.activated, a.1 = a.2.2

theorem Consistent.of_struct {s : Sys} (hs : Struct s) (hp : s.pool = []) (hag : Agree s)
    (hk : ∀ n ∈ s.nodes, ∀ a ∈ n.agent.activated, a.1 = a.2.2) : Consistent s :=
  ⟨hp, hs.nodup, hs.members, hs.view, hag, hk⟩

theorem bcast_activation_log (n : Node) (pid : Pid) (ms : List Member) (s : Sys) :
    (bcast s n ms (.activation pid)).log = s.log := by
  unfold bcast
  induction ms generalizing s with
  | nil => rfl
  | cons m ms ih =>
    rw [List.foldl_cons, ih]
    split
    · split
      · rfl
      · rfl
    · rfl

theorem spawnOn_log (s : Sys) (t : Node) (k : String) :
    (spawnOn s t k).log = s.log ∨ (spawnOn s t k).log = s.log ++ ["spawn:" ++ t.id ++ ":" ++ k] := by
  unfold spawnOn
  split
  · exact Or.inl rfl
  · exact Or.inr rfl

theorem spawnOn_base {note : Note} {k' : String} {OK : AgentSt → Prop} {s : Sys} {t : Node} (k : String)
    (hb : Base note k' OK s) (ht : t ∈ s.nodes) : Base note k' OK (spawnOn s t k) := by
  unfold spawnOn
  split
  · exact hb
  · refine base_congr (s := setNode s { t with actors := t.actors ++ [k] }) rfl hb.poolNote ?_
    exact base_setNode hb ht rfl (hb.keys t ht) (hb.ok t ht) (fun _ _ => rfl)

/-- a consistent cluster satisfies the round invariant's base for any key nobody is in the middle of changing. -/
theorem base_of_consistent {note : Note} {k : String} {OK : AgentSt → Prop} {s : Sys} (hc : Consistent s)
    (hok : ∀ n ∈ s.nodes, OK n.agent) : Base note k OK s :=
  ⟨⟨hc.nodesNodup, hc.membersNodup, hc.view⟩, hc.keys, fun n hn m hm k' _ => hc.agree n hn m hm k', hok,
   by rw [hc.poolEmpty]; intro e he; cases he⟩

theorem consistent_of_inv {note : Note} {k : String} {Done OK : AgentSt → Prop} {s : Sys}
    (hi : Inv note k Done OK s) (hp : s.pool = [])
    (hag : ∀ n m : Node, Done n.agent → Done m.agent → getActiveByID n k = getActiveByID m k) :
    Consistent s ∧ ∀ n ∈ s.nodes, Done n.agent := by
  -- nothing is left in the pool to wait for
  have hd : ∀ n ∈ s.nodes, Done n.agent :=
    fun n hn => (hi.waiting n hn).resolve_right (hp ▸ List.not_mem_nil)
  refine ⟨.of_struct hi.base.struct hp (fun n hn m hm k' => ?_) hi.base.keys, hd⟩
  by_cases hk : k' = k
  · rw [hk]; exact hag n m (hd n hn) (hd m hm)
  · exact hi.base.agreeOther n hn m hm k' hk

/-- agent `a` resolves key `k` to `pid`. -/
def Resolves (k : String) (pid : Pid) (a : AgentSt) : Prop := (a.activated.find? (·.1 = k)).map (·.2) = some pid
/-- … or does not know `k` yet: no other PID stands in the way of `pid`. -/
def ResolvesOrNone (k : String) (pid : Pid) (a : AgentSt) : Prop :=
  Resolves k pid a ∨ a.activated.find? (·.1 = k) = none

theorem activation_spec (pid : Pid) :
    Spec (.activation pid) pid.2 (applyNote (.activation pid)) (Resolves pid.2 pid) (ResolvesOrNone pid.2 pid) :=
  .of_applyNote
    (fun a k' h => by
      show (addActivated a pid).activated.find? _ = _
      rw [addActivated_find, if_neg (Ne.symm h), Option.or_none])
    fun a h => by
      have : Resolves pid.2 pid (addActivated a pid) := by
        unfold ResolvesOrNone Resolves at *
        rw [addActivated_find, if_pos rfl, Option.map_or]
        rcases h with h | h <;> rw [h] <;> rfl
      exact ⟨this, Or.inl this⟩

theorem deactivation_spec (pid : Pid) :
    Spec (.deactivation pid) pid.2 (applyNote (.deactivation pid))
      (fun a => a.activated.find? (·.1 = pid.2) = none) (fun _ => True) :=
  .of_applyNote (fun a k' h => (removeActivated_find a pid k').trans (if_neg h))
    fun a _ => ⟨(removeActivated_find a pid pid.2).trans (if_pos rfl), trivial⟩

/-- a whole round: from the base invariant, broadcasting `note` to a complete view and delivering the
    copies in any order ends in a consistent cluster where every node is done. -/
theorem bcast_round {note : Note} {k : String} {f : AgentSt → AgentSt} {Done OK : AgentSt → Prop}
    (sp : Spec note k f Done OK)
    (hag : ∀ n m : Node, Done n.agent → Done m.agent → getActiveByID n k = getActiveByID m k)
    {s : Sys} (hb : Base note k OK s) {n : Node} (hn : n ∈ s.nodes) (order : List Nat)
    (hlen : (bcast s n n.agent.members note).pool.length ≤ order.length) :
    Consistent (drain (bcast s n n.agent.members note) order) ∧
    ∀ y ∈ (drain (bcast s n n.agent.members note) order).nodes, Done y.agent := by
  obtain ⟨hi, hp⟩ := drain_ind (deliver_inv sp) order
    (bcast_fold_inv sp n n.agent.members hb fun y hy =>
      Or.inr (Or.inr ((hb.struct.view n hn y.id).mpr ⟨y, hy, rfl⟩))) hlen
  exact consistent_of_inv hi hp hag

/-- Deactivate removes the entry on every member, whatever the arrival order. -/
theorem deactivate_everywhere (s : Sys) (hc : Consistent s) (nid : String) (pid : Pid) (order : List Nat)
    (hn : (getNode s nid).isSome = true)
    (hlen : (deactivate s nid pid).pool.length ≤ order.length) :
    Consistent (drain (deactivate s nid pid) order) ∧
    ∀ n ∈ (drain (deactivate s nid pid) order).nodes, getActiveByID n pid.2 = none := by
  cases hg : getNode s nid with
  | none => rw [hg] at hn; cases hn
  | some n =>
    unfold deactivate at hlen ⊢
    rw [hg] at hlen ⊢
    have hb : Base (.deactivation pid) pid.2 (fun _ => True) s := base_of_consistent hc (fun _ _ => trivial)
    obtain ⟨hcons, hd⟩ := bcast_round (deactivation_spec pid) (fun a b ha hb => by unfold getActiveByID; rw [ha, hb])
      hb (getNode_some hg).1 order hlen
    exact ⟨hcons, fun y hy => getActiveByID_none.mpr (hd y hy)⟩

end HW.ClusterSys
