/-! A thread list is a `List` whose element `i` is replaced by `set i`: both concurrent models
(inbox, fine-grained ring) count the threads of a class in it. -/
namespace HW

theorem split_at {α : Type} {l : List α} {i : Nat} {a : α} (h : l[i]? = some a) :
    ∃ l₁ l₂, l = l₁ ++ a :: l₂ ∧ ∀ b, l.set i b = l₁ ++ b :: l₂ := by
  obtain ⟨hi, rfl⟩ := List.getElem?_eq_some_iff.1 h
  exact ⟨l.take i, l.drop (i + 1), by rw [List.getElem_cons_drop, List.take_append_drop],
    fun b => List.set_eq_take_append_cons_drop.trans (if_pos hi)⟩

theorem toNat_le_countP {α : Type} {l : List α} {i : Nat} {a : α} (h : l[i]? = some a) (p : α → Bool) :
    (p a).toNat ≤ l.countP p := by
  cases hp : p a
  · exact Nat.zero_le _
  · exact List.countP_pos_iff.2 ⟨a, List.mem_of_getElem? h, hp⟩

theorem exists_of_countP_pos {α : Type} {l : List α} {p : α → Bool} (h : 1 ≤ l.countP p) :
    ∃ (i : Nat) (a : α), l[i]? = some a ∧ p a = true := by
  obtain ⟨a, ha, hpa⟩ := List.countP_pos_iff.1 h
  obtain ⟨i, hi⟩ := List.getElem?_of_mem ha
  exact ⟨i, a, hi, hpa⟩

theorem countP_set_add {α : Type} (p : α → Bool) {l : List α} {i : Nat} {old : α}
    (h : l[i]? = some old) (a : α) :
    (l.set i a).countP p + (p old).toNat = l.countP p + (p a).toNat := by
  obtain ⟨l₁, l₂, rfl, hs⟩ := split_at h
  simp only [hs, List.countP_append, List.countP_cons, Nat.add_assoc]
  cases p old <;> cases p a <;> rfl

theorem forall_mem_set {α : Type} {P : α → Prop} {l : List α} (h : ∀ a ∈ l, P a) (i : Nat) {b : α}
    (hb : P b) : ∀ a ∈ l.set i b, P a :=
  fun a ha => (List.mem_or_eq_of_mem_set ha).elim (h a) (· ▸ hb)

theorem forall_getD {α : Type} {P : α → Prop} {l : List α} (h : ∀ a ∈ l, P a) {d : α} (hd : P d)
    (i : Nat) : P (l.getD i d) := by
  rw [List.getD_eq_getElem?_getD]
  cases e : l[i]? with
  | none => exact hd
  | some a => exact h a (List.mem_of_getElem? e)

end HW
