import HW.Model.Engine
namespace HW.Engine

theorem esReceive_nodup (e : Eng) (subs : List Key) (m : EMsg) (h : subs.Nodup) :
    (esReceive e subs m).1.Nodup := by
  cases m with
  | sub k =>
    simp only [esReceive]
    split
    · exact h
    · rename_i hk
      exact List.nodup_append.mpr ⟨h, (List.pairwise_singleton _ k), fun a ha b hb e =>
        hk (List.mem_singleton.1 hb ▸ e ▸ ha)⟩
  | unsub k => exact h.filter _
  | event n => exact h.filter _

theorem esRun_nodup (e : Eng) (subs : List Key) (ms : List EMsg) (h : subs.Nodup) :
    (esRun e subs ms).1.Nodup := by
  induction ms generalizing subs with
  | nil => exact h
  | cons m ms ih => exact ih _ (esReceive_nodup e subs m h)

theorem mem_esReceive (e : Eng) (subs : List Key) (m : EMsg) (k : Key) (hd : deliverable e k = true) :
    decide (k ∈ (esReceive e subs m).1) = subStep k (decide (k ∈ subs)) m := by
  cases m with
  | sub k' =>
    simp only [esReceive, subStep]
    by_cases hk : k' = k
    · subst hk; by_cases hm : k' ∈ subs <;> simp [hm]
    · by_cases hm : k' ∈ subs <;> simp [hm, hk, Ne.symm hk]
  | unsub k' =>
    simp only [esReceive, subStep]
    by_cases hk : k' = k
    · subst hk; simp
    · simp [hk, Ne.symm hk]
  | event n => simp [esReceive, subStep, hd]

theorem mem_esRun (e : Eng) (subs : List Key) (ms : List EMsg) (k : Key) (hd : deliverable e k = true) :
    decide (k ∈ (esRun e subs ms).1) = subscribedAfter k (decide (k ∈ subs)) ms := by
  induction ms generalizing subs with
  | nil => rfl
  | cons m ms ih => exact (ih _).trans (congrArg (subscribedAfter k · ms) (mem_esReceive e subs m k hd))

/-- what subscriber `k` is forwarded, in the order of forwarding. -/
def forwardedTo (k : Key) (fw : List (Key × Nat)) : List Nat := (fw.filter (·.1 = k)).map (·.2)

theorem forwardedTo_append (k : Key) (a b : List (Key × Nat)) :
    forwardedTo k (a ++ b) = forwardedTo k a ++ forwardedTo k b := by
  simp [forwardedTo, List.filter_append]

theorem forwardedTo_event (e : Eng) (subs : List Key) (n : Nat) (k : Key) (h : subs.Nodup) :
    forwardedTo k (esReceive e subs (.event n)).2 =
      if k ∈ subs ∧ deliverable e k = true then [n] else [] := by
  rw [esReceive, forwardedTo, List.filter_map, List.map_map]
  -- composed, the predicate is `· = k` and the map `fun _ => n`; filtering a list without
  -- duplicates by `· = k` leaves `k` once or not at all
  dsimp only [Function.comp_def]
  rw [List.filter_eq, List.map_replicate, List.Nodup.count (h.filter _)]
  simp only [List.mem_filter]
  split <;> rfl

theorem forward_count (e : Eng) (subs : List Key) (n : Nat) (k : Key) (h : subs.Nodup) :
    (esReceive e subs (.event n)).2.count (k, n) =
      if k ∈ subs ∧ deliverable e k = true then 1 else 0 := by
  have hnd : ((subs.filter (deliverable e)).map (·, n)).Nodup :=
    (h.filter _).map _ fun a b hab e => hab (Prod.mk.inj e).1
  rw [esReceive, hnd.count]
  simp [List.mem_filter]

/-- the event stream forwards only to deliverable keys … -/
theorem forwards_deliverable (e : Eng) (subs : List Key) (m : EMsg) :
    ∀ f ∈ (esReceive e subs m).2, deliverable e f.1 = true := by
  cases m with
  | sub k => exact fun _ h => nomatch h
  | unsub k => exact fun _ h => nomatch h
  | event n =>
    intro f hf
    obtain ⟨a, ha, rfl⟩ := List.mem_map.1 hf
    exact (List.mem_filter.1 ha).2

/-- … and a message for a deliverable key never turns into an event (no feedback into the stream). -/
theorem send_deliverable (e : Eng) (k : Key) (msg : Payload) (sender : Option Key) (h : deliverable e k = true) :
    send e (some k) msg sender = .enqueue k.id ∨ send e (some k) msg sender = .remoteSend k := by
  unfold deliverable at h
  unfold send
  split at h
  · rename_i ha; simp [ha, h]
  · rename_i ha; simp [ha, h]

theorem forwards_bound (e : Eng) (subs : List Key) (m : EMsg) :
    (esReceive e subs m).2.length ≤ subs.length := by
  cases m with
  | sub k => exact Nat.zero_le _
  | unsub k => exact Nat.zero_le _
  | event n => exact Nat.le_trans (Nat.le_of_eq (List.length_map _)) (List.length_filter_le _ _)

/-- event numbers of a stream, in stream order. -/
def eventsOf : List EMsg → List Nat
  | [] => []
  | .event n :: ms => n :: eventsOf ms
  | _ :: ms => eventsOf ms

/-- events reach each subscriber in stream order, each at most once: what `k` is forwarded is a
    sublist of the stream's events. -/
theorem forwards_in_order (e : Eng) (subs : List Key) (ms : List EMsg) (k : Key) (h : subs.Nodup) :
    (forwardedTo k (esRun e subs ms).2).Sublist (eventsOf ms) := by
  induction ms generalizing subs with
  | nil => exact .slnil
  | cons m ms ih =>
    have ih' := ih _ (esReceive_nodup e subs m h)
    simp only [esRun]
    rw [forwardedTo_append]
    cases m with
    | sub k' => exact ih'
    | unsub k' => exact ih'
    | event n =>
      rw [forwardedTo_event e subs n k h]
      split
      · exact ih'.cons_cons n
      · exact ih'.cons n

end HW.Engine
