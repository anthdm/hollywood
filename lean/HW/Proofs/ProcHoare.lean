import HW.Proofs.ProcBasic
/-!
Hoare-style reading of the induction principle `proc_ind`: a `Triple` reduces a post-condition of
`start` / `invoke` / `tryRestart` to facts about the non-recursive primitives (`Triple.sound`). One
predicate that every primitive preserves needs only eight facts: `Inv`, or `Triple.const` if
`inboxStart` keeps it only on a process that has not stopped, or `Triple.exits` if giving up
(`maxRestarts`, the final `cleanup`) breaks it and another post-condition takes over. All lift to
whole histories.
-/
namespace HW.Proc
namespace Shape

/-- `stA` and `stEnd` of ProcBasic (by `rfl`), under the names the fields of `Triple` and `Inv` use. -/
def startPre (s : PSt) : PSt := emit { s with inc := s.inc + 1 } (.producer (s.inc + 1))
def fin (s : PSt) : PSt := if s.stopped then s else inboxStart s

/-- `PS f`, `PI f`, `PT f` are pre-conditions of `start`, `invoke`, `tryRestart` called with fuel `f`,
    `Q` the post-condition of all three: each field is what one branch of one of them owes, the
    recursive calls taken at their pre-conditions. A property that relates the result to the state
    before the call takes that state as a parameter (`Frame.triple`); one that relates it to the
    messages given needs `Rel`. -/
structure Triple (PS PI PT : Nat → PSt → Prop) (Q : PSt → Prop) : Prop where
  s0 : ∀ s, PS 0 s → Q { s with fuelOut := true }
  i0 : ∀ s, PI 0 s → Q { s with fuelOut := true }
  t0 : ∀ s, PT 0 s → Q { s with fuelOut := true }
  sInit : ∀ f s s2 v, PS (f+1) s → callRecv (startPre s) .initialized = (s2, some v) → PT f s2
  sStarted : ∀ f s s2 s4 v, PS (f+1) s → callRecv (startPre s) .initialized = (s2, none) →
    callRecv (emit s2 (.ev .initialized)) .started = (s4, some v) → PT f s4
  sMid : ∀ f s s2 s4, PS (f+1) s → callRecv (startPre s) .initialized = (s2, none) →
    callRecv (emit s2 (.ev .initialized)) .started = (s4, none) →
    ((emit s4 (.ev .started)).mbuffer = [] → Q (fin (emit s4 (.ev .started)))) ∧
    ((emit s4 (.ev .started)).mbuffer ≠ [] → PI f (emit s4 (.ev .started)))
  sFin : ∀ s, Q s → Q (fin { s with mbuffer := [] })
  iFin : ∀ f s msgs s', PI (f+1) s → invokeLoop s msgs = (s', .finished) → Q s'
  iPanic : ∀ f s msgs s' v buf, PI (f+1) s → invokeLoop s msgs = (s', .panicked v buf) →
    PT f { s' with mbuffer := buf }
  tIerr : ∀ f s, PT (f+1) s → PS f (callRecv s .stopped).1
  tMax : ∀ f s, PT (f+1) s → s.restarts = s.maxRestarts → Q (cleanup (emit s (.ev .maxRestarts)) none)
  tRestart : ∀ f s, PT (f+1) s → s.restarts ≠ s.maxRestarts →
    PS f (emit { (callRecv s .stopped).1 with restarts := (callRecv s .stopped).1.restarts + 1 }
      (.ev (.restarted ((callRecv s .stopped).1.restarts + 1))))

theorem Triple.sound {PS PI PT : Nat → PSt → Prop} {Q : PSt → Prop} (T : Triple PS PI PT Q) (f : Nat) :
    ∀ s, (PS f s → Q (start f s).1) ∧ (∀ msgs, PI f s → Q (invoke f s msgs).1) ∧
      (∀ v, PT f s → Q (tryRestart f s v).1) :=
  -- `startPre`, `fin` and the arguments of the fields are `stA`, `stEnd`, `stB`, `stC`, `trB` unfolded
  have hm (s : PSt) : (stC s).mbuffer = s.mbuffer := by rw [stC_eq]
  proc_ind (S := fun f s r => PS f s → Q r) (I := fun f s _ r => PI f s → Q r)
    (T := fun f s _ r => PT f s → Q r)
    { fuelS := T.s0, fuelI := fun s _ => T.i0 s, fuelT := fun s _ => T.t0 s
      initPanic := fun f s v _ h1 ih h => ih (T.sInit f s _ v h (Prod.ext rfl h1))
      startedPanic := fun f s v _ h1 h2 ih h =>
        ih (T.sStarted f s _ _ v h (Prod.ext rfl h1) (Prod.ext rfl h2))
      started := fun f s h1 h2 hb h =>
        (T.sMid f s _ _ h (Prod.ext rfl h1) (Prod.ext rfl h2)).1 ((hm s).trans hb)
      replayed := fun f s _ h1 h2 hb ih h => T.sFin _ (ih
        ((T.sMid f s _ _ h (Prod.ext rfl h1) (Prod.ext rfl h2)).2 fun e => hb ((hm s).symm.trans e)))
      ierr := fun f s _ ih h => ih (T.tIerr f s h)
      maxed := fun f s hr h => T.tMax f s h hr
      restart := fun f s _ hr ih h => ih (T.tRestart f s h hr) }
    (fun f s msgs s' h1 h => T.iFin f s msgs s' h h1)
    (fun f s msgs s' v buf _ h1 ih h => ih (T.iPanic f s msgs s' v buf h h1)) f

theorem Triple.start {PS PI PT : Nat → PSt → Prop} {Q : PSt → Prop} (T : Triple PS PI PT Q) {f : Nat}
    {s : PSt} (h : PS f s) : Q (start f s).1 :=
  (T.sound f s).1 h

theorem Triple.invoke {PS PI PT : Nat → PSt → Prop} {Q : PSt → Prop} (T : Triple PS PI PT Q) {f : Nat}
    {s : PSt} (msgs : List Msg) (h : PI f s) : Q (invoke f s msgs).1 :=
  (T.sound f s).2.1 msgs h

theorem Triple.tryRestart {PS PI PT : Nat → PSt → Prop} {Q : PSt → Prop} (T : Triple PS PI PT Q) {f : Nat}
    {s : PSt} (v : Pv) (h : PT f s) : Q (tryRestart f s v).1 :=
  (T.sound f s).2.2 v h

theorem Triple.runBatches {PS PI PT : Nat → PSt → Prop} {Q : PSt → Prop} (T : Triple PS PI PT Q) (F : Nat)
    (hopen : ∀ s, Q s → s.inboxOpen = true → PI F s) (bs : List (List Msg)) :
    ∀ s, Q s → Q (runBatches F s bs).1 := by
  induction bs with
  | nil => exact fun s h => h
  | cons b bs ih =>
    intro s h
    rw [runBatches_cons]
    split
    next ho => exact ih _ (T.invoke b (hopen s h ho))
    · exact h

theorem Triple.runHistory {PS PI PT : Nat → PSt → Prop} {Q : PSt → Prop} (T : Triple PS PI PT Q)
    (max mw : Nat) (script : List Outcome) (batches : List (List Msg))
    (hinit : PS (3 * script.length + 6) { maxRestarts := max, mwLen := mw, script := script })
    (hopen : ∀ s, Q s → s.inboxOpen = true → PI (3 * script.length + 6) s) :
    Q (runHistory max mw script batches).1 := by
  rw [runHistory_eq]
  exact T.runBatches _ hopen batches _ (T.start hinit)

theorem runHistory_no_escape (max mw : Nat) (script : List Outcome) (batches : List (List Msg)) :
    (runHistory max mw script batches).2 = none := by
  rw [runHistory_eq]
  generalize (spawn (3 * script.length + 6) max mw script).1 = s
  induction batches generalizing s with
  | nil => rfl
  | cons b bs ih => rw [runBatches_cons]; split; exact ih _; rfl

theorem drain_rule {P : PSt → Prop}
    (hrecv : ∀ s k snd, P s → P (callRecv s (.user k snd)).1) (pill : Msg) (msgs : List Msg) :
    ∀ s, P s → P (drain s pill msgs).1 := by
  induction msgs with
  | nil => exact fun s h => h
  | cons m rest ih =>
    intro s h
    cases m with
    | pill id g => rw [drain_pill]; exact ih s h
    | user k snd =>
      cases hc : (callRecv s (.user k snd)).2 with
      | none => rw [drain_user_none s pill k snd rest hc]; exact ih _ (hrecv s k snd h)
      | some v => rw [drain_user_some s pill k snd rest v hc]; exact hrecv s k snd h

/-- the delivery loop: `P` is kept by deliveries and still holds after a panic; a loop that runs to
    its end, through a pill's `cleanup` or not, turns it into `Q`. -/
theorem invokeLoop_rule {P Q : PSt → Prop}
    (hrecv : ∀ s k snd, P s → P (callRecv s (.user k snd)).1)
    (hclean : ∀ s id, P s → Q (cleanup s (some id)))
    (hfin : ∀ s, P s → Q s) {msgs : List Msg} :
    ∀ {s s' l}, P s → invokeLoop s msgs = (s', l) →
      match l with
      | .finished => Q s'
      | .panicked _ _ => P s' := by
  induction msgs with
  | nil =>
    intro s s' l h he
    cases he
    exact hfin s h
  | cons m rest ih =>
    intro s s' l h he
    cases m with
    | pill id g =>
      cases g with
      | false => rw [invokeLoop_pill_ng] at he; cases he; exact hclean s id h
      | true =>
        rw [invokeLoop_pill_g] at he
        have := drain_rule hrecv (.pill id true) rest s h
        split at he
        next s1 v buf hd => rw [hd] at this; cases he; exact this
        next s1 hd => rw [hd] at this; cases he; exact hclean s1 id this
    | user k snd =>
      cases hc : (callRecv s (.user k snd)).2 with
      | none => rw [invokeLoop_user_none s k snd rest hc] at he; exact ih (hrecv s k snd h) he
      | some v =>
        rw [invokeLoop_user_some s k snd rest v hc] at he
        cases he
        exact hrecv s k snd h

/-- One predicate kept by every primitive. `ev` leaves out the restart event, which is only emitted
    together with the incremented counter (`restart`). -/
structure Inv (I : PSt → Prop) : Prop where
  fuel : ∀ s, I s → I { s with fuelOut := true }
  mbuf : ∀ s b, I s → I { s with mbuffer := b }
  recv : ∀ s m, I s → I (callRecv s m).1
  pre : ∀ s, I s → I (startPre s)
  ev : ∀ s k, (∀ n, k ≠ .restarted n) → I s → I (emit s (.ev k))
  cleanup : ∀ s c, I s → I (cleanup s c)
  inboxStart : ∀ s, I s → I (inboxStart s)
  restart : ∀ s, I s → s.restarts ≠ s.maxRestarts →
    I (emit { s with restarts := s.restarts + 1 } (.ev (.restarted (s.restarts + 1))))

/-- `fin` starts the inbox only of a process that has not stopped. -/
theorem fin_rule {I : PSt → Prop} (inboxStart : ∀ s, s.stopped = false → I s → I (inboxStart s))
    (s : PSt) (h : I s) : I (fin s) := by
  unfold fin
  split
  · exact h
  · exact inboxStart s (Bool.eq_false_iff.2 ‹_›) h

/-- One predicate `I` kept by every primitive, and a post-condition `Q` that holds wherever a call
    ends: where `I` does (`exit`: the fuel is out, the loop or `start` has run to its end), after the
    end of `start` if before it (`sFin`), and after giving up (`tMax`), which `I` need not survive. -/
theorem Triple.exits {I Q : PSt → Prop}
    (fuel : ∀ s, I s → I { s with fuelOut := true }) (mbuf : ∀ s b, I s → I { s with mbuffer := b })
    (recv : ∀ s m, I s → I (callRecv s m).1) (pre : ∀ s, I s → I (startPre s))
    (ev : ∀ s k, (∀ n, k ≠ .restarted n) → k ≠ .maxRestarts → I s → I (emit s (.ev k)))
    (cleanup : ∀ s id, I s → I (cleanup s (some id)))
    (inboxStart : ∀ s, s.stopped = false → I s → I (inboxStart s))
    (restart : ∀ s, I s → s.restarts ≠ s.maxRestarts →
      I (emit { s with restarts := s.restarts + 1 } (.ev (.restarted (s.restarts + 1)))))
    (exit : ∀ s, I s → Q s) (sFin : ∀ s, Q s → Q (fin { s with mbuffer := [] }))
    (tMax : ∀ s, I s → s.restarts = s.maxRestarts → Q (HW.Proc.cleanup (emit s (.ev .maxRestarts)) none)) :
    Triple (fun _ => I) (fun _ => I) (fun _ => I) Q :=
  have recvEq {s m s' r} (h : I s) (he : callRecv s m = (s', r)) : I s' := by
    have := recv s m h; rwa [he] at this
  { s0 := fun s h => exit _ (fuel s h)
    i0 := fun s h => exit _ (fuel s h)
    t0 := fun s h => exit _ (fuel s h)
    sInit := fun f s s2 v h he => recvEq (pre s h) he
    sStarted := fun f s s2 s4 v h he1 he2 =>
      recvEq (ev _ .initialized (by simp) (by simp) (recvEq (pre s h) he1)) he2
    sMid := fun f s s2 s4 h he1 he2 =>
      have h3 := ev _ .started (by simp) (by simp)
        (recvEq (ev _ .initialized (by simp) (by simp) (recvEq (pre s h) he1)) he2)
      ⟨fun _ => exit _ (fin_rule inboxStart _ h3), fun _ => h3⟩
    sFin := sFin
    iFin := fun f s msgs s' h he =>
      invokeLoop_rule (fun s k snd => recv s _) (fun s id h => exit _ (cleanup s id h)) exit h he
    iPanic := fun f s msgs s' v buf h he => mbuf _ _
      (invokeLoop_rule (Q := I) (fun s k snd => recv s _) cleanup (fun s h => h) h he)
    tIerr := fun f s => recv s _
    tMax := fun f s => tMax s
    tRestart := fun f s h hr => restart _ (recv s .stopped h) hr }

/-- `Triple.exits` with the predicate itself as post-condition. -/
theorem Triple.const {I : PSt → Prop}
    (fuel : ∀ s, I s → I { s with fuelOut := true }) (mbuf : ∀ s b, I s → I { s with mbuffer := b })
    (recv : ∀ s m, I s → I (callRecv s m).1) (pre : ∀ s, I s → I (startPre s))
    (ev : ∀ s k, (∀ n, k ≠ .restarted n) → I s → I (emit s (.ev k)))
    (cleanup : ∀ s c, I s → I (cleanup s c))
    (inboxStart : ∀ s, s.stopped = false → I s → I (inboxStart s))
    (restart : ∀ s, I s → s.restarts ≠ s.maxRestarts →
      I (emit { s with restarts := s.restarts + 1 } (.ev (.restarted (s.restarts + 1))))) :
    Triple (fun _ => I) (fun _ => I) (fun _ => I) I :=
  .exits fuel mbuf recv pre (fun s k hk _ => ev s k hk) (fun s _ => cleanup s _) inboxStart restart
    (fun _ h => h) (fun s h => fin_rule inboxStart _ (mbuf s [] h))
    (fun s h _ => cleanup _ _ (ev s .maxRestarts (by simp) h))

theorem Inv.triple {I : PSt → Prop} (H : Inv I) : Triple (fun _ => I) (fun _ => I) (fun _ => I) I :=
  .const H.fuel H.mbuf H.recv H.pre H.ev H.cleanup (fun s _ => H.inboxStart s) H.restart

theorem Inv.runHistory {I : PSt → Prop} (H : Inv I)
    (max mw : Nat) (script : List Outcome) (batches : List (List Msg))
    (hinit : I { maxRestarts := max, mwLen := mw, script := script }) :
    I (runHistory max mw script batches).1 :=
  H.triple.runHistory max mw script batches hinit (fun _ h _ => h)

end Shape
end HW.Proc
