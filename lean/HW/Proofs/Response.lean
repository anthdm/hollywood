import HW.Model.Response
import HW.Proofs.Assoc
namespace HW.Response

/-- invariant: registered ids are below `nextId`; a buffered value was sent to that very id. -/
structure Inv (s : St) : Prop where
  below : ∀ id v, lookup id s.reg = some v → id < s.nextId
  sent : ∀ id x, lookup id s.reg = some (some x) → (id, x) ∈ s.hist

theorem inv_init : Inv {} := ⟨nofun, nofun⟩

theorem lookup_erase (id id' : Nat) (l : List (Nat × Option Val)) :
    lookup id' (erase id l) = if id' = id then none else lookup id' l :=
  Assoc.lookup_erase (fun _ => rfl) (fun _ _ _ _ => rfl) (fun _ => rfl) (fun _ _ _ _ => rfl) id id' l

theorem lookup_setVal (id id' : Nat) (x : Val) (l : List (Nat × Option Val)) :
    lookup id' (setVal id x l) =
      if id' = id then (lookup id l).map fun _ => some x else lookup id' l := by
  induction l with
  | nil => exact (ite_self _).symm
  | cons e rest ih =>
    obtain ⟨k, v⟩ := e
    simp only [setVal, lookup]
    grind [lookup]

/-- the invariant survives when ids and history only grow and every entry is an old one, or is
    below the new `nextId` with its value, if any, in the new history. -/
theorem Inv.mono {s s' : St} (h : Inv s) (hn : s.nextId ≤ s'.nextId) (hh : ∀ p ∈ s.hist, p ∈ s'.hist)
    (hr : ∀ id v, lookup id s'.reg = some v → lookup id s.reg = some v ∨
      (id < s'.nextId ∧ ∀ x, v = some x → (id, x) ∈ s'.hist)) : Inv s' :=
  ⟨fun id v hl => (hr id v hl).elim (fun h' => Nat.lt_of_lt_of_le (h.below id v h') hn) (·.1),
   fun id x hl => (hr id _ hl).elim (fun h' => hh _ (h.sent id x h')) (·.2 x rfl)⟩

theorem step_inv (s : St) (op : Op) (h : Inv s) : Inv (step s op).1 := by
  cases op with
  | request =>
    refine h.mono (Nat.le_succ _) (fun _ hp => hp) fun id v hl => ?_
    rw [step, lookup] at hl
    split at hl
    · rename_i e; cases hl; exact .inr ⟨e ▸ Nat.lt_succ_self _, nofun⟩
    · exact .inl hl
  | reply id v =>
    rw [step]
    have hh : ∀ p ∈ s.hist, p ∈ s.hist ++ [(id, v)] := fun _ => List.mem_append_left _
    split
    · exact h.mono (Nat.le_refl _) hh fun _ _ => .inl
    · rename_i hlk
      refine h.mono (Nat.le_refl _) hh fun i w hl => ?_
      rw [lookup_setVal] at hl
      split at hl
      · rename_i e
        rw [hlk] at hl; cases hl
        exact .inr ⟨e ▸ h.below id none hlk, fun x hx => by cases hx; exact e ▸ List.mem_append_right _ (List.mem_singleton_self _)⟩
      · exact .inl hl
    · exact h.mono (Nat.le_refl _) hh fun _ _ => .inl
  | result id fired =>
    have erased : Inv { s with reg := erase id s.reg } :=
      h.mono (Nat.le_refl _) (fun _ hp => hp) fun _ _ hl => .inl <| by
        rw [lookup_erase] at hl; split at hl
        · cases hl
        · exact hl
    rw [step]
    split
    · exact h
    · exact erased
    · split
      · exact erased
      · exact h

theorem run_inv (s : St) (ops : List Op) (h : Inv s) : Inv (run s ops).1 := by
  induction ops generalizing s with
  | nil => exact h
  | cons op ops ih => exact ih _ (step_inv s op h)

/-- a fresh request id is not registered (ids are never reused while registered). -/
theorem request_fresh (s : St) (h : Inv s) : lookup s.nextId s.reg = none := by
  cases hl : lookup s.nextId s.reg with
  | none => rfl
  | some v => exact absurd (h.below _ v hl) (Nat.lt_irrefl _)

/-- no cross-talk: a value returned for response `id` was sent to that very id. -/
theorem result_value_was_sent (s : St) (h : Inv s) (id : Nat) (fired : Bool) (v : Val)
    (hr : (step s (.result id fired)).2 = .value v) : (id, v) ∈ s.hist := by
  rw [step] at hr
  split at hr
  · cases hr
  · rename_i hlk; cases hr; exact h.sent id _ hlk
  · split at hr <;> cases hr

end HW.Response
