import HW.Proofs.InboxStep
/-!
The inductive invariant `Inv` of the L1 inbox model, phrased with thread *counts* so that every
preservation case is linear arithmetic over a handful of atoms. In the names of DESIGN.md, Appendix A:
`n1`, `n2`, `n3` are I1–I3 (`nActive` = `activeNI` + `isInvoke` threads, the holders of the `running`
token), `e_started`, `e_unstarted`, `pre_stopped`, `unstarted` are I4 (the one starter, and no worker
before it has swapped in `idle`), `i5` is I5, `j` is J, `c0`, `c1` are I6; `r_e` is bookkeeping.
-/
namespace HW.Inbox

/-- active worker that is not inside Invoke: `wLoad`, `wPop`, `wCasIdle`. -/
def activeNI : Pc → Bool
  | .wLoad => true
  | .wPop => true
  | .wCasIdle => true
  | _ => false

def isInvoke : Pc → Bool
  | .wInvoke _ => true
  | _ => false

/-- starter before its CAS(stopped,starting) has been attempted. -/
def preCas : Pc → Bool
  | .stLife => true
  | .stCas => true
  | _ => false

def atSwap : Pc → Bool
  | .stSwap => true
  | _ => false

/-- a thread that is still going to call `schedule()` (or `Len()` and then `schedule()`). -/
def waker : Pc → Bool
  | .sSched _ => true
  | .wLen => true
  | .wSched => true
  | .stSched => true
  | _ => false

@[simp] theorem activeNI_afterSched (ms : List Msg) : activeNI (afterSched ms) = false := by
  unfold afterSched; split <;> rfl
@[simp] theorem isInvoke_afterSched (ms : List Msg) : isInvoke (afterSched ms) = false := by
  unfold afterSched; split <;> rfl
@[simp] theorem preCas_afterSched (ms : List Msg) : preCas (afterSched ms) = false := by
  unfold afterSched; split <;> rfl
@[simp] theorem atSwap_afterSched (ms : List Msg) : atSwap (afterSched ms) = false := by
  unfold afterSched; split <;> rfl
@[simp] theorem waker_afterSched (ms : List Msg) : waker (afterSched ms) = false := by
  unfold afterSched; split <;> rfl

theorem SchedPc.classes {pc pc' : Pc} (h : SchedPc pc pc') :
    activeNI pc = false ∧ isInvoke pc = false ∧ preCas pc = false ∧ atSwap pc = false ∧
    waker pc = true ∧
    activeNI pc' = false ∧ isInvoke pc' = false ∧ preCas pc' = false ∧ atSwap pc' = false ∧
    waker pc' = false := by
  cases h
  · exact ⟨rfl, rfl, rfl, rfl, rfl, by simp⟩
  all_goals decide

structure Inv (s : St) : Prop where
  r_e : s.restartedAfterStop = true → s.everStopped = true
  e_started : s.started = true → s.thr.countP preCas + s.thr.countP atSwap = 0
  e_unstarted : s.started = false → s.thr.countP preCas + s.thr.countP atSwap = 1
  pre_stopped : 1 ≤ s.thr.countP preCas → s.status = .stopped
  unstarted : s.started = false →
    s.thr.countP activeNI + s.thr.countP isInvoke = 0 ∧ s.status ≠ .idle ∧ s.status ≠ .running
  n1 : s.restartedAfterStop = false → s.thr.countP activeNI + s.thr.countP isInvoke ≤ 1
  n2 : s.restartedAfterStop = false → s.status = .running →
    s.thr.countP activeNI + s.thr.countP isInvoke = 1
  n3 : s.restartedAfterStop = false → s.status = .idle ∨ s.status = .starting →
    s.thr.countP activeNI + s.thr.countP isInvoke = 0
  i5 : s.started = true → s.everStopped = false → s.status = .idle ∨ s.status = .running
  j : s.started = true → s.everStopped = false → s.q ≠ [] →
    s.status = .running ∨ 1 ≤ s.thr.countP waker
  c0 : s.restartedAfterStop = false → s.thr.countP isInvoke = 0 →
    s.delivered ++ s.q = s.pushed.map (·.2)
  c1 : s.restartedAfterStop = false → ∀ (t : Nat) (b : List Msg),
    s.thr[t]? = some (.wInvoke b) → s.delivered ++ b ++ s.q = s.pushed.map (·.2)

/-- The counting fields of `Inv` (all but `c0`, `c1`, in that order) with the five class counts as
    plain numbers: `a i p x w` stand for the threads in `activeNI`, `isInvoke`, `preCas`, `atSwap`,
    `waker`. Preservation is then linear arithmetic over five variables and the flags, with no list
    in sight. -/
def Counts (s : St) (a i p x w : Nat) : Prop :=
  (s.restartedAfterStop = true → s.everStopped = true) ∧
  (s.started = true → p + x = 0) ∧
  (s.started = false → p + x = 1) ∧
  (1 ≤ p → s.status = .stopped) ∧
  (s.started = false → a + i = 0 ∧ s.status ≠ .idle ∧ s.status ≠ .running) ∧
  (s.restartedAfterStop = false → a + i ≤ 1) ∧
  (s.restartedAfterStop = false → s.status = .running → a + i = 1) ∧
  (s.restartedAfterStop = false → s.status = .idle ∨ s.status = .starting → a + i = 0) ∧
  (s.started = true → s.everStopped = false → s.status = .idle ∨ s.status = .running) ∧
  (s.started = true → s.everStopped = false → s.q ≠ [] → s.status = .running ∨ 1 ≤ w)

theorem Inv.counts {s : St} (inv : Inv s) :
    Counts s (s.thr.countP activeNI) (s.thr.countP isInvoke) (s.thr.countP preCas)
      (s.thr.countP atSwap) (s.thr.countP waker) :=
  ⟨inv.r_e, inv.e_started, inv.e_unstarted, inv.pre_stopped, inv.unstarted, inv.n1, inv.n2, inv.n3,
    inv.i5, inv.j⟩

/-- a step moves one thread from the classes of `pc` to those of `pc'` and adds those of `extra`. -/
theorem Counts.step {B : Nat} {s s' : St} {t : Nat} {pc pc' : Pc} {extra : List Pc}
    {a i p x w a' i' p' x' w' : Nat} (hc : Counts s a i p x w) (h : Step B s t pc pc' extra s')
    (cA : a' + (activeNI pc).toNat = a + (activeNI pc').toNat + extra.countP activeNI)
    (cI : i' + (isInvoke pc).toNat = i + (isInvoke pc').toNat + extra.countP isInvoke)
    (cP : p' + (preCas pc).toNat = p + (preCas pc').toNat + extra.countP preCas)
    (cX : x' + (atSwap pc).toNat = x + (atSwap pc').toNat + extra.countP atSwap)
    (cW : w' + (waker pc).toNat = w + (waker pc').toNat + extra.countP waker) :
    Counts s' a' i' p' x' w' := by
  -- `Counts` is unfolded after the split: substituting `s'` in ten conjuncts, seventeen times, is dear
  cases h
  -- steps within one class that touch neither status nor queue: nothing `Counts` sees changes
  case loadStopped | loadLive | popEmpty | lenNonempty | life =>
    simp [activeNI, isInvoke, preCas, atSwap, waker] at cA cI cP cX cW
    subst_vars
    exact hc
  all_goals unfold Counts at hc ⊢
  case schedOk hst hsp | schedFail hst hsp =>
    simp only [hsp.classes] at cA cI cP cX cW
    simp [activeNI, isInvoke, preCas, atSwap, waker] at cA cI cP cX cW
    subst_vars
    grind
  -- The other steps change the status, the queue or a flag. DESIGN.md, Appendix A says why each
  -- field survives them; for the delicate one, `j`: a push leaves its sender a waker, a failed CAS
  -- idle→running means `running` (field `i5`), the worker's CAS running→idle leaves it a waker.
  -- Here that is linear arithmetic over the five counts and the flags, case by case.
  all_goals
    simp [activeNI, isInvoke, preCas, atSwap, waker] at cA cI cP cX cW
    subst_vars
    grind

/-- Where the messages go when a thread steps from `pc` to `pc'`: the step appends what it pushes
    to the queue and to `pushed` (most steps: nothing), or moves a batch from the queue into a
    `wInvoke`, or from a `wInvoke` to `delivered`. -/
inductive Flow (B : Nat) (s s' : St) (pc pc' : Pc) : Prop
  | append (ms : List Msg) (hpc : isInvoke pc = false) (hpc' : isInvoke pc' = false)
      (hd : s'.delivered = s.delivered) (hq : s'.q = s.q ++ ms)
      (hp : s'.pushed.map (·.2) = s.pushed.map (·.2) ++ ms)
  | pop (hpc : activeNI pc = true) (hpc' : pc' = .wInvoke (s.q.take B))
      (hd : s'.delivered = s.delivered) (hq : s'.q = s.q.drop B) (hp : s'.pushed = s.pushed)
  | invoke (b : List Msg) (hpc : pc = .wInvoke b) (hpc' : isInvoke pc' = false)
      (hd : s'.delivered = s.delivered ++ b) (hq : s'.q = s.q) (hp : s'.pushed = s.pushed)

/-- Every step is one of the three flows; no spawned thread holds a batch, and only the starter's
    CAS can set `restartedAfterStop`. -/
theorem Step.flow {B : Nat} {s s' : St} {t : Nat} {pc pc' : Pc} {extra : List Pc}
    (h : Step B s t pc pc' extra s') :
    (s'.restartedAfterStop = false → s.restartedAfterStop = false) ∧ extra.countP isInvoke = 0 ∧
      Flow B s s' pc pc' := by
  cases h
  case push m ms => exact ⟨id, rfl, .append [m] rfl rfl rfl rfl List.map_append⟩
  case pop => exact ⟨id, rfl, .pop rfl rfl rfl rfl rfl⟩
  case invoke b => exact ⟨id, rfl, .invoke b rfl rfl rfl rfl rfl⟩
  case schedOk hsp | schedFail hsp =>
    exact ⟨id, rfl,
      .append [] (by simp only [hsp.classes]) (by simp only [hsp.classes]) rfl (by simp) (by simp)⟩
  case stCasOk =>
    exact ⟨And.left ∘ Bool.or_eq_false_iff.1, rfl, .append [] rfl rfl rfl (by simp) (by simp)⟩
  all_goals exact ⟨id, rfl, .append [] rfl rfl rfl (List.append_nil _).symm (List.append_nil _).symm⟩

theorem Inv.step {B : Nat} {s s' : St} {t : Nat} {pc pc' : Pc} {extra : List Pc}
    (inv : Inv s) (hpc : s.thr[t]? = some pc) (h : Step B s t pc pc' extra s') : Inv s' := by
  obtain ⟨h1, h2, h3, h4, h5, h6, h7, h8, h9, h10⟩ :=
    inv.counts.step h (h.countP hpc _) (h.countP hpc _) (h.countP hpc _) (h.countP hpc _)
      (h.countP hpc _)
  -- conservation: the token (`n1`) makes the in-flight batch unique, `Step.flow` says where it goes
  obtain ⟨hras, hex, hflow⟩ := h.flow
  have cI := h.countP hpc isInvoke
  have gA := toNat_le_countP hpc activeNI
  have gI := toNat_le_countP hpc isInvoke
  -- an invoker of `s'` other than the stepping thread was one of `s`
  have old : ∀ {t' b}, s'.thr[t']? = some (Pc.wInvoke b) → Pc.wInvoke b ≠ pc' →
      1 ≤ s.thr.countP isInvoke ∧ s.thr[t']? = some (Pc.wInvoke b) := fun hb hne =>
    have ho := getElem?_step_inv (h.thr_eq ▸ hb) hne
      fun hm => List.countP_eq_zero.1 hex _ hm rfl
    ⟨toNat_le_countP ho isInvoke, ho⟩
  have n1 := inv.n1
  have c0 := inv.c0
  have c1 := inv.c1
  generalize s.thr.countP activeNI = a at gA n1
  generalize s.thr.countP isInvoke = i at cI gI n1 c0 old
  refine ⟨h1, h2, h3, h4, h5, h6, h7, h8, h9, h10, ?_, ?_⟩ <;> clear h1 h2 h3 h4 h5 h6 h7 h8 h9 h10
  · -- `c0`: no thread is inside Invoke after the step
    intro hr hI
    cases hflow with
    | append ms e1 e2 ed eq ep =>
      -- none was before
      rw [e1, e2, hex] at cI
      rw [ed, eq, ep, ← c0 (hras hr) (cI.symm.trans hI), List.append_assoc]
    | pop e1 e2 =>
      -- impossible: the popper is
      rw [e2, hex, show isInvoke (Pc.wInvoke (s.q.take B)) = true from rfl, Bool.toNat_true] at cI
      omega
    | invoke b e1 e2 ed eq ep =>
      -- the stepping thread was, and has delivered its batch
      subst e1
      rw [ed, eq, ep]; exact c1 (hras hr) t b hpc
  · -- `c1`: thread `t'` is inside Invoke with batch `b` after the step
    intro hr t' b hb
    have n1 := n1 (hras hr)
    have hn : 1 ≤ s'.thr.countP isInvoke := toNat_le_countP hb isInvoke
    cases hflow with
    | append ms e1 e2 ed eq ep =>
      -- it was before
      obtain ⟨-, ho⟩ := old hb (fun e => by rw [← e] at e2; cases e2)
      rw [ed, eq, ep, ← c1 (hras hr) t' b ho, ← List.append_assoc]
    | pop e1 e2 ed eq ep =>
      -- it is the popper, as the popper held the token and nobody else was inside Invoke
      subst e2
      rw [e1, Bool.toNat_true] at gA
      by_cases hne : Pc.wInvoke b = .wInvoke (s.q.take B)
      · cases hne
        rw [ed, eq, ep, List.append_assoc, List.take_append_drop]
        exact c0 (hras hr) (Nat.eq_zero_of_le_zero (Nat.le_of_add_le_add_left (Nat.le_trans n1 gA)))
      · cases Nat.not_le_of_lt (Nat.add_le_add gA (old hb hne).1) n1
    | invoke b0 e1 e2 =>
      -- impossible: the stepping thread held the token, so nobody else is inside Invoke
      subst e1
      rw [e2, hex] at cI; simp [isInvoke] at cI; omega

theorem init_countP (senders : List (List Msg)) (nStop : Nat) (p : Pc → Bool)
    (h1 : ∀ ms, p (.sPush ms) = false) (h2 : p .stop = false) :
    (init senders nStop).thr.countP p = (p .stLife).toNat := by
  show ([Pc.stLife] ++ senders.map Pc.sPush ++ List.replicate nStop Pc.stop).countP p = _
  simp [List.countP_cons, List.countP_map, List.countP_replicate, Function.comp_def, h1, h2,
    Bool.toNat]

theorem inv_init (senders : List (List Msg)) (nStop : Nat) : Inv (init senders nStop) := by
  have cA : (init senders nStop).thr.countP activeNI = 0 := init_countP _ _ _ (fun _ => rfl) rfl
  have cI : (init senders nStop).thr.countP isInvoke = 0 := init_countP _ _ _ (fun _ => rfl) rfl
  have cP : (init senders nStop).thr.countP preCas = 1 := init_countP _ _ _ (fun _ => rfl) rfl
  have cS : (init senders nStop).thr.countP atSwap = 0 := init_countP _ _ _ (fun _ => rfl) rfl
  have h1 : (init senders nStop).status = .stopped := rfl
  have h2 : (init senders nStop).q = [] := rfl
  have h3 : (init senders nStop).pushed = [] := rfl
  have h4 : (init senders nStop).delivered = [] := rfl
  have h5 : (init senders nStop).started = false := rfl
  have h6 : (init senders nStop).everStopped = false := rfl
  have h7 : (init senders nStop).restartedAfterStop = false := rfl
  constructor
  case c1 =>
    intro _ t b hb
    have : 1 ≤ (init senders nStop).thr.countP isInvoke := toNat_le_countP hb isInvoke
    omega
  all_goals simp [cA, cI, cP, cS, h1, h2, h3, h4, h5, h6, h7]

theorem Inv.reachable {B : Nat} {senders : List (List Msg)} {nStop : Nat} {s : St}
    (hr : Reachable B senders nStop s) : Inv s := by
  obtain ⟨sched, rfl⟩ := hr
  exact runSched_induction Inv.step sched (inv_init senders nStop)

/-- Sender `i` is thread `i + 1` (thread 0 is the starter): what it has pushed so far, followed by
    what its pc still holds, is its program. -/
def ProgOrd (senders : List (List Msg)) (s : St) : Prop :=
  ∀ (i : Nat) (prog : List Msg), senders[i]? = some prog →
    ∃ rest, sentBy s (i + 1) ++ rest = prog ∧
      (s.thr[i + 1]? = some (Pc.sPush rest) ∨ s.thr[i + 1]? = some (Pc.sSched rest) ∨
       (rest = [] ∧ s.thr[i + 1]? = some Pc.done))

theorem progOrd_init (senders : List (List Msg)) (nStop : Nat) :
    ProgOrd senders (init senders nStop) := by
  intro i prog hi
  refine ⟨prog, by simp [sentBy, init], Or.inl ?_⟩
  have hlt : i < senders.length := (List.getElem?_eq_some_iff.1 hi).1
  show ([Pc.stLife] ++ senders.map Pc.sPush ++ List.replicate nStop Pc.stop)[i + 1]? = _
  rw [List.append_assoc, List.singleton_append, List.getElem?_cons_succ,
    List.getElem?_append_left (by simpa using hlt), List.getElem?_map, hi]
  rfl

theorem sentBy_step {B : Nat} {s s' : St} {t j : Nat} {pc pc' : Pc} {extra : List Pc}
    (h : Step B s t pc pc' extra s') (hne : j ≠ t) : sentBy s' j = sentBy s j := by
  cases h
  case push => simp [sentBy, List.filter_append, Ne.symm hne]
  all_goals rfl

theorem ProgOrd.step {B : Nat} {senders : List (List Msg)} {s s' : St} {t : Nat} {pc pc' : Pc}
    {extra : List Pc} (po : ProgOrd senders s) (hpc : s.thr[t]? = some pc)
    (h : Step B s t pc pc' extra s') : ProgOrd senders s' := by
  intro i prog hi
  obtain ⟨rest, hrest, hthr⟩ := po i prog hi
  by_cases hit : i + 1 = t
  · subst hit
    rw [hpc] at hthr
    have hself : s'.thr[i + 1]? = some pc' := h.thr_eq ▸ (getElem?_step hpc pc' extra).trans (if_pos rfl)
    -- the pc of the sender says which steps it can take: at `sPush` a push, at `sSched` the call
    -- of `schedule()`, at `done` none
    rcases hthr with e | e | ⟨-, e⟩ <;> cases e <;> cases h
    case push m ms =>
      exact ⟨ms, by simpa [sentBy, List.filter_append] using hrest, .inr (.inl hself)⟩
    all_goals cases ‹SchedPc _ _›
    all_goals
      refine ⟨rest, hrest, ?_⟩
      rw [hself]
      by_cases hm : rest = [] <;> simp [afterSched, hm]
  · refine ⟨rest, by rw [sentBy_step h hit]; exact hrest, ?_⟩
    have hget : ∀ x, s.thr[i + 1]? = some x → s'.thr[i + 1]? = some x := fun x hx =>
      h.thr_eq ▸ (getElem?_step hx _ _).trans (if_neg (Ne.symm hit))
    exact hthr.imp (hget _) (.imp (hget _) (.imp_right (hget _)))

theorem ProgOrd.reachable {B : Nat} {senders : List (List Msg)} {nStop : Nat} {s : St}
    (hr : Reachable B senders nStop s) : ProgOrd senders s := by
  obtain ⟨sched, rfl⟩ := hr
  exact runSched_induction ProgOrd.step sched (progOrd_init senders nStop)

end HW.Inbox
