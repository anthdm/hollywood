import HW.Model.Cluster
namespace HW.Cluster

theorem mem_ids {ms : List Member} {id : String} : id ∈ ids ms ↔ ∃ m ∈ ms, m.id = id :=
  List.mem_map

theorem hasId_iff {ms : List Member} {id : String} : hasId ms id = true ↔ id ∈ ids ms := by
  simp [hasId, ids, List.any_eq_true, List.mem_map]

theorem hasId_false_iff {ms : List Member} {id : String} : hasId ms id = false ↔ id ∉ ids ms := by
  rw [← hasId_iff]; cases hasId ms id <;> simp

theorem ids_append (a b : List Member) : ids (a ++ b) = ids a ++ ids b :=
  List.map_append

section Overwrite
variable {α β : Type} [DecidableEq β] (key : α → β) {n : α} {l : List α}

/-- overwriting by key, as `setAdd` and `ClusterSys.setNode` do, keeps every key where it is. -/
theorem map_overwrite : (l.map fun x => if key x = key n then n else x).map key = l.map key := by
  rw [List.map_map]
  exact List.map_congr_left fun x _ => by simp only [Function.comp]; split <;> simp [*]

theorem mem_overwrite {y : α} (h : y ∈ l.map fun x => if key x = key n then n else x) :
    y = n ∨ (y ∈ l ∧ key y ≠ key n) := by
  obtain ⟨x, hx, rfl⟩ := List.mem_map.mp h
  split
  · exact Or.inl rfl
  · exact Or.inr ⟨hx, ‹_›⟩

end Overwrite

section AddNew
variable (acc : List Member) (m : Member)

/-- the step of `provAdd`: `m` is added unless its id is known. -/
theorem nodup_addNew (hn : (ids acc).Nodup) : (ids (if hasId acc m.id then acc else acc ++ [m])).Nodup := by
  split
  · exact hn
  · rename_i h
    rw [ids_append]
    refine List.nodup_append.2 ⟨hn, List.pairwise_singleton _ _, fun a ha b hb e => ?_⟩
    cases e
    cases List.mem_singleton.mp hb
    exact h (hasId_iff.2 ha)

theorem mem_ids_addNew (id : String) :
    id ∈ ids (if hasId acc m.id then acc else acc ++ [m]) ↔ id ∈ ids acc ∨ id = m.id := by
  split
  · rename_i h
    exact ⟨Or.inl, fun h' => h'.elim (fun h' => h') fun e => e ▸ hasId_iff.1 h⟩
  · simp [ids]

theorem mem_addNew_sub (x : Member) (h : x ∈ if hasId acc m.id then acc else acc ++ [m]) :
    x ∈ acc ∨ x = m := by
  split at h
  · exact Or.inl h
  · simpa using h

/-- `setAdd` differs from that step only in overwriting the member whose id is known. -/
theorem ids_setAdd : ids (setAdd acc m) = ids (if hasId acc m.id then acc else acc ++ [m]) := by
  unfold setAdd
  split
  · exact map_overwrite Member.id
  · rfl

end AddNew

theorem mem_ids_setAdd {ms : List Member} {m : Member} {id : String} :
    id ∈ ids (setAdd ms m) ↔ id ∈ ids ms ∨ id = m.id := by
  rw [ids_setAdd]; exact mem_ids_addNew ms m id

theorem nodup_setAdd {ms : List Member} {m : Member} (hn : (ids ms).Nodup) :
    (ids (setAdd ms m)).Nodup := by
  rw [ids_setAdd]; exact nodup_addNew ms m hn

theorem mem_setAdd_sub {ms : List Member} {m x : Member} (h : x ∈ setAdd ms m) : x ∈ ms ∨ x = m := by
  unfold setAdd at h
  split at h
  · exact (mem_overwrite Member.id h).symm.imp_left And.left
  · simpa using h

theorem setAdd_fresh {ms : List Member} {m : Member} (h : m.id ∉ ids ms) : setAdd ms m = ms ++ [m] := by
  unfold setAdd
  rw [if_neg]
  intro hc; exact h (hasId_iff.1 hc)

section Fold
variable {g : List Member → Member → List Member}

theorem nodup_foldl (hg : ∀ acc m, (ids acc).Nodup → (ids (g acc m)).Nodup) (js acc : List Member)
    (hn : (ids acc).Nodup) : (ids (js.foldl g acc)).Nodup :=
  List.foldlRecOn (motive := fun l => (ids l).Nodup) js g hn fun acc h m _ => hg acc m h

theorem mem_ids_foldl (hg : ∀ acc m id, id ∈ ids (g acc m) ↔ id ∈ ids acc ∨ id = m.id)
    (js acc : List Member) (id : String) :
    id ∈ ids (js.foldl g acc) ↔ id ∈ ids acc ∨ id ∈ ids js := by
  induction js generalizing acc with
  | nil => exact (or_iff_left List.not_mem_nil).symm
  | cons j t ih =>
    rw [List.foldl_cons, ih, hg, or_assoc]
    exact or_congr_right List.mem_cons.symm

theorem mem_foldl_sub (hg : ∀ acc m x, x ∈ g acc m → x ∈ acc ∨ x = m) (js acc : List Member)
    (x : Member) (h : x ∈ js.foldl g acc) : x ∈ acc ∨ x ∈ js :=
  List.foldlRecOn (motive := fun l => x ∈ l → x ∈ acc ∨ x ∈ js) js g Or.inl
    (fun l hl m hm hx => (hg l m x hx).elim hl fun e => Or.inr (e ▸ hm)) h

end Fold

theorem foldl_setAdd_fresh (js acc : List Member) (hn : (ids js).Nodup)
    (hd : ∀ id, id ∈ ids js → id ∉ ids acc) : js.foldl setAdd acc = acc ++ js := by
  induction js generalizing acc with
  | nil => exact (List.append_nil _).symm
  | cons j t ih =>
    obtain ⟨hj, hn'⟩ := List.nodup_cons.mp hn
    rw [List.foldl_cons, setAdd_fresh (hd _ List.mem_cons_self), ih _ hn', List.append_assoc]
    · rfl
    · intro id hid hc
      rcases List.mem_append.mp (ids_append .. ▸ hc) with hc | hc
      · exact hd id (List.mem_cons_of_mem _ hid) hc
      · exact hj (List.mem_singleton.mp hc ▸ hid)

theorem nodup_mkSet (ms : List Member) : (ids (mkSet ms)).Nodup :=
  nodup_foldl (fun _ _ => nodup_setAdd) ms [] List.nodup_nil

theorem mem_ids_mkSet {ms : List Member} {id : String} : id ∈ ids (mkSet ms) ↔ id ∈ ids ms := by
  unfold mkSet; rw [mem_ids_foldl fun _ _ _ => mem_ids_setAdd]; exact or_iff_right List.not_mem_nil

theorem mem_mkSet_sub {ms : List Member} {x : Member} (h : x ∈ mkSet ms) : x ∈ ms := by
  rcases mem_foldl_sub (fun _ _ _ => mem_setAdd_sub) ms [] x h with h | h
  · simp at h
  · exact h

theorem nodup_ids_filter (p : Member → Bool) {ms : List Member} (hn : (ids ms).Nodup) :
    (ids (ms.filter p)).Nodup :=
  List.Nodup.sublist ((List.filter_sublist (l := ms) (p := p)).map _) hn

theorem mem_ids_filter_of_id {ms : List Member} (p : Member → Bool) (q : String → Prop)
    (hpq : ∀ m, p m = true ↔ q m.id) {id : String} :
    id ∈ ids (ms.filter p) ↔ id ∈ ids ms ∧ q id := by
  rw [mem_ids, mem_ids]
  constructor
  · rintro ⟨m, hm, rfl⟩
    rw [List.mem_filter] at hm
    exact ⟨⟨m, hm.1, rfl⟩, (hpq m).1 hm.2⟩
  · rintro ⟨⟨m, hm, rfl⟩, hq⟩
    exact ⟨m, List.mem_filter.2 ⟨hm, (hpq m).2 hq⟩, rfl⟩

theorem mem_ids_except {s t : List Member} {id : String} :
    id ∈ ids (except s t) ↔ id ∈ ids s ∧ id ∉ ids t := by
  unfold except
  apply mem_ids_filter_of_id _ (fun id => id ∉ ids t)
  intro m
  rw [Bool.not_eq_true', hasId_false_iff]

theorem nodup_except {s : List Member} (t : List Member) (hn : (ids s).Nodup) :
    (ids (except s t)).Nodup := nodup_ids_filter _ hn

theorem mem_ids_setRemove {s : List Member} {x id : String} :
    id ∈ ids (setRemove s x) ↔ id ∈ ids s ∧ id ≠ x := by
  unfold setRemove
  apply mem_ids_filter_of_id _ (fun id => id ≠ x)
  intro m; simp

theorem nodup_setRemove {s : List Member} (x : String) (hn : (ids s).Nodup) :
    (ids (setRemove s x)).Nodup := nodup_ids_filter _ hn

theorem mem_addKinds (ks acc : List String) (k : String) : k ∈ addKinds acc ks ↔ k ∈ acc ∨ k ∈ ks := by
  unfold addKinds
  induction ks generalizing acc with
  | nil => simp
  | cons a t ih =>
    rw [List.foldl_cons, ih]
    by_cases h : a ∈ acc <;> by_cases hk : k = a <;> simp [h, hk]

theorem mem_foldl_addKinds (ms : List Member) (acc : List String) (k : String) :
    k ∈ ms.foldl (fun acc m => addKinds acc m.kinds) acc ↔ k ∈ acc ∨ ∃ m ∈ ms, k ∈ m.kinds := by
  induction ms generalizing acc with
  | nil => simp
  | cons a t ih =>
    rw [List.foldl_cons, ih, mem_addKinds]
    simp [or_assoc]

theorem mem_rebuildKinds (ms : List Member) (k : String) :
    k ∈ rebuildKinds ms ↔ ∃ m ∈ ms, k ∈ m.kinds := by
  unfold rebuildKinds; rw [mem_foldl_addKinds]; simp

theorem joinIds_append (a b : List AgentOut) : joinIds (a ++ b) = joinIds a ++ joinIds b := by
  simp [joinIds, List.filterMap_append]

theorem leaveIds_append (a b : List AgentOut) : leaveIds (a ++ b) = leaveIds a ++ leaveIds b := by
  simp [leaveIds, List.filterMap_append]

theorem runAll_cons (f : AgentSt → Member → AgentSt × List AgentOut) (st : AgentSt) (m : Member)
    (ms : List Member) :
    runAll f st (m :: ms) = ((runAll f (f st m).1 ms).1, (f st m).2 ++ (runAll f (f st m).1 ms).2) := rfl

/-- what one `memberJoin` publishes: it only looks at the activation table, which joins leave alone. -/
def joinOut (act : List (String × Pid)) (m : Member) : List AgentOut :=
  (if act = [] then [] else [AgentOut.topology m.id (act.map (·.1))]) ++ [.join m.id]

theorem runAll_join (js : List Member) (st : AgentSt) :
    runAll memberJoin st js =
      ({ members := js.foldl setAdd st.members,
         kinds := js.foldl (fun acc m => addKinds acc m.kinds) st.kinds,
         activated := st.activated }, js.flatMap (joinOut st.activated)) := by
  induction js generalizing st with
  | nil => rfl
  | cons j t ih => rw [runAll_cons, ih]; rfl

theorem leave_out (ls : List Member) (st : AgentSt) :
    (runAll memberLeave st ls).2 = ls.map (fun m => AgentOut.leave m.id) := by
  induction ls generalizing st with
  | nil => rfl
  | cons l t ih => rw [runAll_cons, ih]; rfl

theorem leave_members (ls : List Member) (st : AgentSt) :
    (runAll memberLeave st ls).1.members = except st.members ls := by
  induction ls generalizing st with
  | nil => exact (List.filter_eq_self.2 fun _ _ => rfl).symm
  | cons l t ih =>
    rw [runAll_cons, ih]
    simp only [memberLeave, setRemove, except, List.filter_filter]
    refine List.filter_congr fun x _ => ?_
    simp [hasId, Bool.and_comm, eq_comm]

theorem leave_kinds (ls : List Member) (st : AgentSt) (hne : ls ≠ []) :
    (runAll memberLeave st ls).1.kinds = rebuildKinds (runAll memberLeave st ls).1.members := by
  induction ls generalizing st with
  | nil => exact absurd rfl hne
  | cons l t ih =>
    rw [runAll_cons]
    by_cases ht : t = []
    · subst ht; rfl
    · exact ih _ ht

theorem handleMembers_fst (st : AgentSt) (snap : List Member) :
    (handleMembers st snap).1 =
      (runAll memberLeave (runAll memberJoin st (except (mkSet snap) st.members)).1
        (except st.members snap)).1 := rfl

theorem handleMembers_snd (st : AgentSt) (snap : List Member) :
    (handleMembers st snap).2 =
      (except (mkSet snap) st.members).flatMap (joinOut st.activated) ++
      (except st.members snap).map (fun m => AgentOut.leave m.id) := by
  show (runAll memberJoin st _).2 ++ (runAll memberLeave _ _).2 = _
  rw [runAll_join, leave_out]

end HW.Cluster
