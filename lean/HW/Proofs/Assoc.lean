/-! Association lists as the registry models keep them: `lookup` finds the first entry of a key,
`erase` removes all of them.  `Registry` and `Response` each define the pair for their own types;
what is proved here holds of any pair with those defining equations. -/
namespace HW.Assoc
variable {κ ν : Type} [DecidableEq κ]
  {lookup : κ → List (κ × ν) → Option ν} {erase : κ → List (κ × ν) → List (κ × ν)}

theorem lookup_erase (hl0 : ∀ id, lookup id [] = none)
    (hl : ∀ id k v rest, lookup id ((k, v) :: rest) = if k = id then some v else lookup id rest)
    (he0 : ∀ id, erase id [] = [])
    (he : ∀ id k v rest,
      erase id ((k, v) :: rest) = if k = id then erase id rest else (k, v) :: erase id rest)
    (id id' : κ) (l : List (κ × ν)) :
    lookup id' (erase id l) = if id' = id then none else lookup id' l := by
  induction l with
  | nil => rw [he0, hl0, ite_self]
  | cons e rest ih =>
    obtain ⟨k, v⟩ := e
    rw [he, hl]
    grind

end HW.Assoc
