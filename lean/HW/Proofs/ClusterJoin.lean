import HW.Proofs.ClusterJoinLemmas
namespace HW.ClusterSys
open HW.Cluster

/-- the membership record a provider publishes for a node. -/
def toMember (n : Node) : Member := { id := n.id, host := n.host, kinds := n.localKinds }

/-- node `x` joins: every member (the joiner included) receives the snapshot of the enlarged cluster. -/
def joinNode (s : Sys) (x : Node) : Sys :=
  let s1 : Sys := { s with nodes := s.nodes ++ [x] }
  let snap := s1.nodes.map toMember
  s1.nodes.foldl (fun acc n => snapshot acc n.id snap) s1

theorem ids_snap (l : List Node) : ids (l.map toMember) = l.map (·.id) := by
  simp [ids, toMember, List.map_map, Function.comp_def]

theorem nodup_ids_snoc {s : Sys} {x : Node} (hnd : (s.nodes.map (·.id)).Nodup)
    (hfresh : ∀ n ∈ s.nodes, n.id ≠ x.id) : ((s.nodes ++ [x]).map (·.id)).Nodup := by
  rw [List.map_append, List.nodup_append]
  refine ⟨hnd, List.pairwise_singleton _ _, fun a ha b hb => ?_⟩
  obtain ⟨m, hm, rfl⟩ := List.mem_map.mp ha
  rw [List.mem_singleton.mp hb]
  exact hfresh m hm

section Join
variable {s : Sys} (hc : Consistent s) {x : Node} (hfresh : ∀ n ∈ s.nodes, n.id ≠ x.id)
include hc hfresh

/-- a round of snapshots `snap` over an old cluster and a newcomer without activations: every node
    has handled `snap`, and the pool holds what the old members sent on the way. -/
theorem join_round (hx : x.agent.activated = []) (snap : List Member) :
    ((s.nodes ++ [x]).foldl (fun acc n => snapshot acc n.id snap) { s with nodes := s.nodes ++ [x] }).nodes =
      (s.nodes ++ [x]).map (afterSnapshot snap) ∧
    ((s.nodes ++ [x]).foldl (fun acc n => snapshot acc n.id snap) { s with nodes := s.nodes ++ [x] }).pool =
      s.nodes.flatMap (toposSent snap) := by
  have hall := nodup_ids_snoc hc.nodesNodup hfresh
  have htx : topoIds (handleMembers x.agent snap).2 = [] := by rw [handle_topoIds, if_pos hx]
  obtain ⟨h1, h2⟩ := snapshot_fold snap (s.nodes ++ [x])
    (acc := { s with nodes := s.nodes ++ [x] }) hall hall (fun _ h => h) (by
      -- nobody sends a topology to itself: an old member is in its own view, the newcomer sends none
      intro n hn t ht e
      rcases List.mem_append.mp hn with hn | hn
      · exact (mem_topoIds_handle.mp ht).2.2 (e ▸ (hc.view n hn n.id).mpr ⟨n, hn, rfl⟩)
      · rw [List.mem_singleton.mp hn, htx] at ht; cases ht)
  exact ⟨h1.trans (List.map_congr_left fun y hy => if_pos (List.mem_map_of_mem hy)),
    by rw [h2, List.flatMap_append]; simp [hc.poolEmpty, toposSent, htx]⟩

theorem joinNode_eq (hx : x.agent.activated = []) :
    ∃ snap, ids snap = (s.nodes ++ [x]).map (·.id) ∧
      (joinNode s x).nodes = (s.nodes ++ [x]).map (afterSnapshot snap) ∧
      (joinNode s x).pool = s.nodes.flatMap (toposSent snap) :=
  ⟨_, ids_snap _, join_round hc hfresh hx _⟩

/-- an old member handles the snapshot of the enlarged cluster: its activations stay, and it sends a
    topology exactly if it has any, to the joiner only. -/
theorem join_old {snap : List Member} (hsnap : ids snap = (s.nodes ++ [x]).map (·.id)) {n : Node}
    (hn : n ∈ s.nodes) :
    (afterSnapshot snap n).agent.activated = n.agent.activated ∧
    ∀ t, t ∈ topoIds (handleMembers n.agent snap).2 ↔ n.agent.activated ≠ [] ∧ t = x.id := by
  have hview : ∀ id, id ∈ ids n.agent.members ↔ id ∈ s.nodes.map (·.id) :=
    fun id => (hc.view n hn id).trans List.mem_map.symm
  have hxn : x.id ∉ s.nodes.map (·.id) := fun h => by
    obtain ⟨m, hm, e⟩ := List.mem_map.mp h
    exact hfresh m hm e
  refine ⟨handle_activated _ _ fun id hid => ?_, fun t => ?_⟩
  · rw [hsnap, List.map_append]
    exact List.mem_append_left _ ((hview id).mp hid)
  · rw [mem_topoIds_handle, hsnap, hview, List.map_append, List.mem_append]
    exact and_congr_right fun _ =>
      ⟨fun ⟨h1, h2⟩ => by simpa [h2] using h1, fun e => e ▸ ⟨Or.inr (by simp), hxn⟩⟩

theorem join_jinv (hx : x.agent.members = [] ∧ x.agent.activated = [])
    {G : String → Option Pid} (hG : ∀ n ∈ s.nodes, ∀ k, getActiveByID n k = G k)
    (hG0 : ∀ k, G k ≠ none → ∃ n ∈ s.nodes, n.agent.activated ≠ []) :
    JInv x.id G (joinNode s x) := by
  obtain ⟨snap, hsnap, hnodes, hpool⟩ := joinNode_eq hc hfresh hx.2
  have hids : (joinNode s x).nodes.map (·.id) = (s.nodes ++ [x]).map (·.id) := by
    rw [hnodes, List.map_map]; rfl
  -- a node of the result is an old member or the joiner, after the snapshot
  have hcases : ∀ {P : Node → Prop}, (∀ n ∈ s.nodes, P (afterSnapshot snap n)) → P (afterSnapshot snap x) →
      ∀ y ∈ (joinNode s x).nodes, P y := by
    intro P hold hnew y hy
    rw [hnodes, List.map_append, List.mem_append, List.mem_map] at hy
    rcases hy with ⟨n, hn, rfl⟩ | hy
    · exact hold n hn
    · rw [List.mem_singleton.mp hy]; exact hnew
  have hview : ∀ n id,
      id ∈ ids (afterSnapshot snap n).agent.members ↔ ∃ m ∈ (joinNode s x).nodes, m.id = id :=
    fun n id => by rw [← List.mem_map, hids, ← hsnap]; exact mem_ids_handle _ _ _
  have hold := fun n hn => join_old hc hfresh hsnap (n := n) hn
  have hxact : (afterSnapshot snap x).agent.activated = [] :=
    (handle_activated _ _ fun id hid => by rw [hx.1] at hid; cases hid).trans hx.2
  have hxnone : ∀ k, getActiveByID (afterSnapshot snap x) k = none :=
    fun k => by rw [getActiveByID, hxact]; rfl
  refine ⟨⟨hids ▸ nodup_ids_snoc hc.nodesNodup hfresh, ?_, hcases (fun n _ => hview n) (hview x)⟩,
    ?_, ?_, ?_, ?_, ?_⟩
  · exact hcases (fun n hn => handle_nodup _ _ (hc.membersNodup n hn))
      (handle_nodup _ _ (by rw [hx.1]; exact List.nodup_nil))
  · exact hcases (fun n hn => by rw [(hold n hn).1]; exact hc.keys n hn) (by rw [hxact]; simp)
  · exact hcases (fun n hn _ k => by rw [← hG n hn k]; simp only [getActiveByID, (hold n hn).1])
      (fun hne => absurd rfl hne)
  · intro e he
    rw [hpool] at he
    obtain ⟨n, hn, he⟩ := List.mem_flatMap.mp he
    obtain ⟨t, ht, rfl⟩ := List.mem_map.mp he
    exact ⟨(((hold n hn).2 t).mp ht).2, n.agent.activated, rfl, hc.keys n hn, hG n hn⟩
  · refine hcases (fun n hn hid => absurd hid (hfresh n hn)) fun _ => ?_
    by_cases hp : (joinNode s x).pool = []
    · refine Or.inl fun k => (hxnone k).trans (Eq.symm (Classical.byContradiction fun hne => ?_))
      -- an old member that has activations has sent a topology
      obtain ⟨n, hn, ha⟩ := hG0 k hne
      have h0 : toposSent snap n = [] := List.flatMap_eq_nil_iff.mp (hpool ▸ hp) n hn
      have := ((hold n hn).2 x.id).mpr ⟨ha, rfl⟩
      rw [List.map_eq_nil_iff.mp h0] at this; cases this
    · exact Or.inr ⟨hxnone, hp⟩
  · exact ⟨afterSnapshot snap x, hnodes ▸ List.mem_map_of_mem (List.mem_append_right _ List.mem_cons_self), rfl⟩

end Join

/-- A member that joins later learns all active actors: after the topology notifications have been
    delivered — in ANY order — the cluster (joiner included) is consistent, i.e. the joiner resolves
    every id exactly like everybody else. -/
theorem joiner_learns_all (s : Sys) (hc : Consistent s) (x : Node)
    (hfresh : ∀ n ∈ s.nodes, n.id ≠ x.id)
    (hx : x.agent.members = [] ∧ x.agent.activated = [])
    (order : List Nat) (hlen : (joinNode s x).pool.length ≤ order.length) :
    Consistent (drain (joinNode s x) order) ∧
    (∀ n ∈ s.nodes, ∀ k, ∀ x' ∈ (drain (joinNode s x) order).nodes, x'.id = x.id →
       getActiveByID x' k = getActiveByID n k) := by
  obtain ⟨G, hG, hG0⟩ : ∃ G : String → Option Pid, (∀ n ∈ s.nodes, ∀ k, getActiveByID n k = G k) ∧
      ∀ k, G k ≠ none → ∃ n ∈ s.nodes, n.agent.activated ≠ [] := by
    cases hs : s.nodes with
    | nil => exact ⟨fun _ => none, fun _ h => (by cases h), fun _ h => absurd rfl h⟩
    | cons n0 l =>
      have hn0 : n0 ∈ s.nodes := by rw [hs]; simp
      exact ⟨getActiveByID n0, fun n hn k => hc.agree n (hs ▸ hn) n0 hn0 k,
        fun k hne => ⟨n0, List.mem_cons_self, fun ha => hne (by simp [getActiveByID, ha])⟩⟩
  obtain ⟨hj, hp⟩ := drain_ind jinv_deliver order (join_jinv hc hfresh hx hG hG0) hlen
  obtain ⟨hcons, hres⟩ := jinv_consistent hj hp
  exact ⟨hcons, fun n hn k x' hx' _ => (hres x' hx' k).trans (hG n hn k).symm⟩

end HW.ClusterSys
