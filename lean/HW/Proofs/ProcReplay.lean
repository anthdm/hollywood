/-
Replay accounting: the user deliveries made by `start` / `invoke` / `tryRestart` are a prefix of what
they were given (the buffer, resp. the batch), and all of it if the process survives with fuel left.
-/
import HW.Proofs.ProcFrame
namespace HW.Proc

@[simp] theorem userRecvs_stAEvs (s : PSt) : userRecvs (stAEvs s) = [] := rfl
@[simp] theorem userRecvs_stBEvs (s : PSt) : userRecvs (stBEvs s) = [] := rfl
@[simp] theorem userRecvs_stCEvs (s : PSt) : userRecvs (stCEvs s) = [] := rfl
@[simp] theorem userRecvs_trBEvs (s : PSt) : userRecvs (trBEvs s) = [] := rfl
@[simp] theorem userRecvs_stEndEvs (s : PSt) : userRecvs (stEndEvs s) = [] := by
  unfold stEndEvs; split <;> rfl
@[simp] theorem userRecvs_cleanupEvs (s : PSt) (c) : userRecvs (cleanupEvs s c) = [] := by
  cases c <;> rfl
@[simp] theorem userRecvs_cons_init (a b c tr) : userRecvs (.recv a .initialized b c :: tr) = userRecvs tr := rfl
@[simp] theorem userRecvs_cons_started (a b c tr) : userRecvs (.recv a .started b c :: tr) = userRecvs tr := rfl
@[simp] theorem userRecvs_cons_stopped (a b c tr) : userRecvs (.recv a .stopped b c :: tr) = userRecvs tr := rfl
@[simp] theorem userRecvs_cons_user (a k snd b c tr) :
    userRecvs (.recv a (.user k snd) b c :: tr) = (k, snd) :: userRecvs tr := rfl
@[simp] theorem userRecvs_cons_ev (k tr) : userRecvs (.ev k :: tr) = userRecvs tr := rfl
@[simp] theorem userRecvs_cons_producer (k tr) : userRecvs (.producer k :: tr) = userRecvs tr := rfl
@[simp] theorem userRecvs_cons_cancel (k tr) : userRecvs (.cancel k :: tr) = userRecvs tr := rfl
@[simp] theorem userRecvs_cons_inboxStop (tr) : userRecvs (.inboxStop :: tr) = userRecvs tr := rfl
@[simp] theorem userRecvs_cons_inboxStart (k tr) : userRecvs (.inboxStart k :: tr) = userRecvs tr := rfl
@[simp] theorem userRecvs_cons_unregister (tr) : userRecvs (.unregister :: tr) = userRecvs tr := rfl

/-- replay accounting of a run from `s` to `r` that was given `msgs`. -/
def RP (s : PSt) (msgs : List Msg) (r : PSt) : Prop :=
  ∃ D, userRecvs r.trace = userRecvs s.trace ++ D ∧ D <+: usersOf msgs ∧
    (r.stopped = false → r.fuelOut = false → D = usersOf msgs)

theorem RP.nil {s r : PSt} {msgs : List Msg} (h : userRecvs r.trace = userRecvs s.trace)
    (hd : r.stopped = true ∨ r.fuelOut = true ∨ usersOf msgs = []) : RP s msgs r := by
  refine ⟨[], by simp [h], List.nil_prefix, ?_⟩
  intro h1 h2
  rcases hd with hd | hd | hd
  · rw [hd] at h1; cases h1
  · rw [hd] at h2; cases h2
  · exact hd.symm

theorem RP.post {s r r' : PSt} {msgs : List Msg} (h : RP s msgs r)
    (ht : userRecvs r'.trace = userRecvs r.trace) (hs : r'.stopped = r.stopped)
    (hf : r'.fuelOut = r.fuelOut) : RP s msgs r' := by
  obtain ⟨D, h1, h2, h3⟩ := h
  exact ⟨D, by rw [ht, h1], h2, by rw [hs, hf]; exact h3⟩

/-- the callee continues from `s'`, where `D0` has been delivered and `buf` is still to come. -/
theorem RP.step {s s' r : PSt} {msgs buf : List Msg} (D0 : List (Nat × Option Nat))
    (h : RP s' buf r) (ht : userRecvs s'.trace = userRecvs s.trace ++ D0)
    (hm : usersOf msgs = D0 ++ usersOf buf) : RP s msgs r := by
  obtain ⟨D, h1, h2, h3⟩ := h
  refine ⟨D0 ++ D, by rw [h1, ht, List.append_assoc], ?_, ?_⟩
  · rw [hm]; exact (List.prefix_append_right_inj D0).mpr h2
  · intro a b; rw [hm, h3 a b]

theorem replay_rel :
    Rel (fun _ s r => RP s s.mbuffer r)
      (fun _ s msgs r => RP s msgs r)
      (fun _ s _ r => RP s s.mbuffer r) where
  fuelS := fun s => RP.nil rfl (by simp)
  fuelI := fun s msgs => RP.nil rfl (by simp)
  fuelT := fun s v => RP.nil rfl (by simp)
  initPanic := fun f s v r _ h => h.step [] (by simp) (by simp)
  startedPanic := fun f s v r _ _ h => h.step [] (by simp) (by simp)
  started := fun f s _ _ hb => RP.nil (by simp) (by simp [hb])
  replayed := fun f s r _ _ _ h => (h.step [] (by simp) (by simp)).post (by simp) (by simp) (by simp)
  loopDone := fun f s msgs scr _ => ⟨usersOf msgs, by simp, List.prefix_refl _, fun _ _ => rfl⟩
  loopPill := by
    intro f s pre id g post scr _
    refine ⟨usersOf pre ++ if g then usersOf post else [], by simp, ?_, nofun⟩
    cases g <;> simp
  loopPanic := fun f s pre k snd buf scr v r _ h =>
    h.step (usersOf pre ++ [(k, snd)]) (by simp) (by simp)
  drainPanic := fun f s pre id post k snd rest scr v r _ h =>
    h.step (usersOf pre ++ (usersOf post ++ [(k, snd)])) (by simp) (by simp)
  ierr := fun f s r h => h.step [] (by simp) (by simp)
  maxed := fun f s _ => RP.nil (by simp) (.inl rfl)
  restart := fun f s r _ h => h.step [] (by simp) (by simp)

theorem replay_invoke (f s msgs) : RP s msgs (invoke f s msgs).1 := replay_rel.invoke f s msgs

/-- a history is accounted like one batch. -/
theorem replay_runBatches {n F : Nat} (hF : 3 * n + 1 ≤ F) : ∀ bs s, Shape.Rest n s →
    RP s bs.flatten (runBatches F s bs).1 :=
  runBatches_rest hF (M := fun s bs r => RP s bs.flatten r)
    (done := fun s bs h hb => RP.nil rfl (by
      rcases hb with rfl | hc
      · exact .inr (.inr rfl)
      · exact .inl (by simpa [hc] using h.inbox)))
    (stop := fun s b bs _ _ hs => by
      obtain ⟨D, a1, a2, -⟩ := replay_invoke F s b
      refine ⟨D, a1, ?_, fun h => by rw [hs] at h; cases h⟩
      rw [List.flatten_cons, usersOf_append]
      exact a2.trans (List.prefix_append _ _))
    (cont := fun s b bs r _ h1 hs _ ih => by
      obtain ⟨_, a1, -, a3⟩ := replay_invoke F s b
      obtain rfl := a3 hs h1.fuel
      exact ih.step _ a1 (by simp))

theorem userRecvs_spawn (fuel max mw : Nat) (script : List Outcome) :
    userRecvs (spawn fuel max mw script).1.trace = [] := by
  obtain ⟨D, h1, h2, _⟩ := replay_rel.start fuel { maxRestarts := max, mwLen := mw, script := script }
  obtain rfl : D = [] := by simpa using h2
  simpa [spawn] using h1

theorem replay_history (max mw : Nat) (script : List Outcome) (batches : List (List Msg)) :
    userRecvs (runHistory max mw script batches).1.trace <+: allUsers batches ∧
      ((runHistory max mw script batches).1.stopped = false →
        userRecvs (runHistory max mw script batches).1.trace = allUsers batches) := by
  have hf := fuel_sufficient max mw script batches
  rw [runHistory_eq] at hf ⊢
  obtain ⟨D, h1, h2, h3⟩ := replay_runBatches (n := script.length) (F := 3 * script.length + 6) (by simp)
    batches _ (Shape.rest_spawn (3 * script.length + 6) max mw script (by simp))
  rw [h1, userRecvs_spawn]
  exact ⟨h2, fun hs => h3 hs hf⟩

/-- an actor that is still alive at the end has received every message of the history. -/
theorem replay_complete (max mw : Nat) (script : List Outcome) (batches : List (List Msg))
    (ha : (runHistory max mw script batches).1.stopped = false) :
    userRecvs (runHistory max mw script batches).1.trace = allUsers batches :=
  (replay_history max mw script batches).2 ha

end HW.Proc
