/-
Basic facts about the process model: one equation per non-recursive primitive for the state it leaves,
`no_escape`, one-level unfoldings of the mutual functions, the induction principle `proc_ind`
over them, the structural specification `LoopSpec` of the delivery loop, and `Rel`: `proc_ind`
with the loop replaced by its four cases, for properties that relate the result of a call to the
messages it was given.
-/
import HW.Spec.Lifecycle
namespace HW.Proc

@[simp] theorem emit_trace (s : PSt) (e : Ev) : (emit s e).trace = s.trace ++ [e] := rfl
@[simp] theorem emit_inc (s : PSt) (e : Ev) : (emit s e).inc = s.inc := rfl
@[simp] theorem emit_mbuffer (s : PSt) (e : Ev) : (emit s e).mbuffer = s.mbuffer := rfl
@[simp] theorem emit_script (s : PSt) (e : Ev) : (emit s e).script = s.script := rfl
@[simp] theorem emit_stopped (s : PSt) (e : Ev) : (emit s e).stopped = s.stopped := rfl
@[simp] theorem emit_fuelOut (s : PSt) (e : Ev) : (emit s e).fuelOut = s.fuelOut := rfl
@[simp] theorem emit_inboxOpen (s : PSt) (e : Ev) : (emit s e).inboxOpen = s.inboxOpen := rfl
@[simp] theorem emit_registered (s : PSt) (e : Ev) : (emit s e).registered = s.registered := rfl
@[simp] theorem emit_restarts (s : PSt) (e : Ev) : (emit s e).restarts = s.restarts := rfl
@[simp] theorem emit_maxRestarts (s : PSt) (e : Ev) : (emit s e).maxRestarts = s.maxRestarts := rfl
@[simp] theorem emit_mwLen (s : PSt) (e : Ev) : (emit s e).mwLen = s.mwLen := rfl

@[simp] theorem callRecv_fst (s : PSt) (m : LMsg) :
    (callRecv s m).1 = { s with trace := s.trace ++ [.recv s.inc m s.mwLen s.registered],
                                script := if m = .stopped then s.script else s.script.tail } := by
  cases m
  case stopped => rfl
  all_goals
    unfold callRecv nextOutcome emit
    cases hs : s.script with
    | nil => rfl
    | cons o r => cases o <;> rfl

/-- a panic is an outcome of the script, which the delivery has consumed. -/
theorem callRecv_script_lt (s : PSt) (m : LMsg) (v : Pv) (h : (callRecv s m).2 = some v) :
    (callRecv s m).1.script.length < s.script.length := by
  cases m
  case stopped => cases h
  all_goals
    rw [callRecv_fst]
    unfold callRecv nextOutcome at h
    cases hs : s.script with
    | nil => simp [hs] at h
    | cons o r => simp

theorem callRecv_script_le (s : PSt) (m : LMsg) :
    (callRecv s m).1.script.length ≤ s.script.length := by
  rw [callRecv_fst]; dsimp only; split <;> simp

/-- `callRecv_fst` for a delivery given by its result, as the fields of `Shape.Triple` give it; of
    the script left only the two bounds on its length are kept. -/
theorem callRecv_spec {s : PSt} {m : LMsg} {s' : PSt} {r : Option Pv} (h : callRecv s m = (s', r)) :
    ∃ sc, s' = { s with trace := s.trace ++ [.recv s.inc m s.mwLen s.registered], script := sc } ∧
      sc.length ≤ s.script.length ∧ ∀ v, r = some v → sc.length < s.script.length := by
  obtain ⟨rfl, rfl⟩ : (callRecv s m).1 = s' ∧ (callRecv s m).2 = r := by rw [h]; exact ⟨rfl, rfl⟩
  exact ⟨(callRecv s m).1.script, by simp, callRecv_script_le s m, callRecv_script_lt s m⟩

@[simp] theorem callRecv_stopped_script (s : PSt) : (callRecv s .stopped).1.script = s.script := rfl
@[simp] theorem callRecv_stopped_snd (s : PSt) : (callRecv s .stopped).2 = none := rfl

def cleanupEvs (s : PSt) (c : Option Nat) : List Ev :=
  [.inboxStop, .unregister, .recv s.inc .stopped s.mwLen false, .ev .stopped] ++
    (match c with | none => [] | some id => [.cancel id])

@[simp] theorem cleanup_eq (s : PSt) (c : Option Nat) :
    cleanup s c = { s with stopped := true, inboxOpen := false, registered := false,
                           trace := s.trace ++ cleanupEvs s c } := by
  cases c <;> simp [cleanup, cleanupEvs, callRecv, emit]

@[simp] theorem cleanup_mbuffer (s : PSt) (c : Option Nat) : (cleanup s c).mbuffer = s.mbuffer := by rw [cleanup_eq]
@[simp] theorem cleanup_restarts (s : PSt) (c : Option Nat) : (cleanup s c).restarts = s.restarts := by rw [cleanup_eq]
@[simp] theorem cleanup_maxRestarts (s : PSt) (c : Option Nat) : (cleanup s c).maxRestarts = s.maxRestarts := by rw [cleanup_eq]
@[simp] theorem cleanup_mwLen (s : PSt) (c : Option Nat) : (cleanup s c).mwLen = s.mwLen := by rw [cleanup_eq]

@[simp] theorem inboxStart_eq (s : PSt) :
    inboxStart s = { s with inboxOpen := true, trace := s.trace ++ [.inboxStart (!s.inboxOpen)] } := by
  unfold inboxStart emit
  cases h : s.inboxOpen <;> simp

@[simp] theorem inboxStart_restarts (s : PSt) : (inboxStart s).restarts = s.restarts := by rw [inboxStart_eq]
@[simp] theorem inboxStart_maxRestarts (s : PSt) : (inboxStart s).maxRestarts = s.maxRestarts := by rw [inboxStart_eq]
@[simp] theorem inboxStart_mwLen (s : PSt) : (inboxStart s).mwLen = s.mwLen := by rw [inboxStart_eq]

/-- `start` up to the Initialized delivery. -/
def stA (s : PSt) : PSt := emit { s with inc := s.inc + 1 } (.producer (s.inc + 1))
/-- `start` up to the Started delivery. -/
def stB (s : PSt) : PSt := emit (callRecv (stA s) .initialized).1 (.ev .initialized)
/-- `start` up to the replay of the buffer. -/
def stC (s : PSt) : PSt := emit (callRecv (stB s) .started).1 (.ev .started)
/-- the end of `start`. -/
def stEnd (s : PSt) : PSt := if s.stopped then s else inboxStart s
/-- `tryRestart` with a user panic within the budget, up to the call of `start`. -/
def trB (s : PSt) : PSt :=
  emit { (callRecv s .stopped).1 with restarts := s.restarts + 1 } (.ev (.restarted (s.restarts + 1)))

def stAEvs (s : PSt) : List Ev := [.producer (s.inc + 1)]
def stBEvs (s : PSt) : List Ev :=
  [.producer (s.inc + 1), .recv (s.inc + 1) .initialized s.mwLen s.registered, .ev .initialized]
def stCEvs (s : PSt) : List Ev :=
  [.producer (s.inc + 1), .recv (s.inc + 1) .initialized s.mwLen s.registered, .ev .initialized,
   .recv (s.inc + 1) .started s.mwLen s.registered, .ev .started]

@[simp] theorem stA_trace (s : PSt) : (stA s).trace = s.trace ++ stAEvs s := rfl
@[simp] theorem stA_inc (s : PSt) : (stA s).inc = s.inc + 1 := rfl
@[simp] theorem stA_mbuffer (s : PSt) : (stA s).mbuffer = s.mbuffer := rfl
@[simp] theorem stA_script (s : PSt) : (stA s).script = s.script := rfl
@[simp] theorem stA_stopped (s : PSt) : (stA s).stopped = s.stopped := rfl
@[simp] theorem stA_fuelOut (s : PSt) : (stA s).fuelOut = s.fuelOut := rfl
@[simp] theorem stA_inboxOpen (s : PSt) : (stA s).inboxOpen = s.inboxOpen := rfl
@[simp] theorem stA_registered (s : PSt) : (stA s).registered = s.registered := rfl
@[simp] theorem stA_restarts (s : PSt) : (stA s).restarts = s.restarts := rfl
@[simp] theorem stA_maxRestarts (s : PSt) : (stA s).maxRestarts = s.maxRestarts := rfl
@[simp] theorem stA_mwLen (s : PSt) : (stA s).mwLen = s.mwLen := rfl

@[simp] theorem stB_eq (s : PSt) :
    stB s = { s with inc := s.inc + 1, trace := s.trace ++ stBEvs s, script := s.script.tail } := by
  simp [stB, stA, stBEvs, emit]

@[simp] theorem stC_eq (s : PSt) :
    stC s = { s with inc := s.inc + 1, trace := s.trace ++ stCEvs s, script := s.script.tail.tail } := by
  simp [stC, stCEvs, stBEvs, emit]

@[simp] theorem stC_restarts (s : PSt) : (stC s).restarts = s.restarts := by simp [stC]
@[simp] theorem stC_maxRestarts (s : PSt) : (stC s).maxRestarts = s.maxRestarts := by simp [stC]
@[simp] theorem stC_mwLen (s : PSt) : (stC s).mwLen = s.mwLen := by simp [stC]
def stEndEvs (s : PSt) : List Ev := if s.stopped then [] else [.inboxStart (!s.inboxOpen)]

@[simp] theorem stEnd_eq (s : PSt) :
    stEnd s = { s with inboxOpen := s.inboxOpen || !s.stopped, trace := s.trace ++ stEndEvs s } := by
  cases s
  simp only [stEnd, stEndEvs]
  split <;> simp_all

@[simp] theorem stEnd_mbuffer (s : PSt) : (stEnd s).mbuffer = s.mbuffer := by rw [stEnd_eq]
def trBEvs (s : PSt) : List Ev :=
  [.recv s.inc .stopped s.mwLen s.registered, .ev (.restarted (s.restarts + 1))]

@[simp] theorem trB_eq (s : PSt) :
    trB s = { s with restarts := s.restarts + 1, trace := s.trace ++ trBEvs s } := by
  simp [trB, trBEvs, emit]

theorem no_escape (f : Nat) : ∀ s : PSt,
    (start f s).2 = none ∧ (∀ msgs, (invoke f s msgs).2 = none) ∧ (∀ v, (tryRestart f s v).2 = none) := by
  induction f with
  | zero => intro s; simp [start, invoke, tryRestart]
  | succ f ih =>
    intro s
    refine ⟨?_, ?_, ?_⟩
    · rw [start]
      dsimp only
      split
      · exact (ih _).2.2 _
      · split
        · exact (ih _).2.2 _
        · split
          · exact (ih _).2.2 _
          · exact (apply_ite Prod.snd ..).trans (ite_self _)
    · intro msgs
      rw [invoke]
      split
      · rfl
      · exact (ih _).2.2 _
    · intro v
      cases v
      · rw [tryRestart]
        split
        · rfl
        · exact (ih _).1
      · rw [tryRestart]
        exact (ih _).1

/-- `no_escape` as equations: a call returns a state and no panic. -/
theorem start_eq (f : Nat) (s : PSt) : start f s = ((start f s).1, none) :=
  Prod.ext rfl (no_escape f s).1

theorem invoke_eq (f : Nat) (s : PSt) (msgs : List Msg) : invoke f s msgs = ((invoke f s msgs).1, none) :=
  Prod.ext rfl ((no_escape f s).2.1 msgs)

theorem start_succ_fst (f : Nat) (s : PSt) :
    (start (f + 1) s).1 =
      match (callRecv (stA s) .initialized).2 with
      | some v => (tryRestart f (callRecv (stA s) .initialized).1 v).1
      | none =>
        match (callRecv (stB s) .started).2 with
        | some v => (tryRestart f (callRecv (stB s) .started).1 v).1
        | none =>
          if s.mbuffer = [] then stEnd (stC s)
          else stEnd { (invoke f (stC s) s.mbuffer).1 with mbuffer := [] } := by
  rw [← show (stC s).mbuffer = s.mbuffer by rw [stC_eq], start]
  unfold stC stB stA
  -- both sides speak of the same two deliveries, which may return anything
  generalize callRecv (emit { s with inc := s.inc + 1 } (.producer (s.inc + 1))) .initialized = rA
  obtain ⟨s2, _ | v⟩ := rA
  · dsimp only
    generalize callRecv (emit s2 (.ev .initialized)) .started = rB
    obtain ⟨s4, _ | v⟩ := rB
    · dsimp only
      generalize emit s4 (.ev .started) = s5
      rw [invoke_eq]
      by_cases hb : s5.mbuffer = [] <;> simp only [hb, ↓reduceIte] <;> exact apply_ite Prod.fst ..
    · rfl
  · rfl

theorem invoke_succ_fst (f : Nat) (s : PSt) (msgs : List Msg) :
    (invoke (f + 1) s msgs).1 =
      match invokeLoop s msgs with
      | (s', .finished) => s'
      | (s', .panicked v buf) => (tryRestart f { s' with mbuffer := buf } v).1 := by
  rw [invoke]; split <;> simp_all

theorem tryRestart_succ_ierr_fst (f : Nat) (s : PSt) :
    (tryRestart (f + 1) s .ierr).1 = (start f (callRecv s .stopped).1).1 := by
  rw [tryRestart]

theorem tryRestart_succ_user_fst (f : Nat) (s : PSt) :
    (tryRestart (f + 1) s .user).1 =
      if s.restarts = s.maxRestarts then cleanup (emit s (.ev .maxRestarts)) none
      else (start f (trB s)).1 := by
  rw [tryRestart]; split <;> rfl

/-- What a relational property of `start` (`S`), `invoke` (`I`) and `tryRestart` (`T`) owes when
    the fuel is out and at each branch of `start` and `tryRestart`, the calls they make taken at
    their relations. -/
structure Branches (S : Nat → PSt → PSt → Prop) (I : Nat → PSt → List Msg → PSt → Prop)
    (T : Nat → PSt → Pv → PSt → Prop) : Prop where
  fuelS : ∀ s, S 0 s { s with fuelOut := true }
  fuelI : ∀ s msgs, I 0 s msgs { s with fuelOut := true }
  fuelT : ∀ s v, T 0 s v { s with fuelOut := true }
  initPanic : ∀ f s v r, (callRecv (stA s) .initialized).2 = some v →
    T f (callRecv (stA s) .initialized).1 v r → S (f + 1) s r
  startedPanic : ∀ f s v r, (callRecv (stA s) .initialized).2 = none →
    (callRecv (stB s) .started).2 = some v →
    T f (callRecv (stB s) .started).1 v r → S (f + 1) s r
  started : ∀ f s, (callRecv (stA s) .initialized).2 = none →
    (callRecv (stB s) .started).2 = none → s.mbuffer = [] → S (f + 1) s (stEnd (stC s))
  replayed : ∀ f s r, (callRecv (stA s) .initialized).2 = none →
    (callRecv (stB s) .started).2 = none → s.mbuffer ≠ [] →
    I f (stC s) s.mbuffer r → S (f + 1) s (stEnd { r with mbuffer := [] })
  ierr : ∀ f s r, S f (callRecv s .stopped).1 r → T (f + 1) s .ierr r
  maxed : ∀ f s, s.restarts = s.maxRestarts →
    T (f + 1) s .user (cleanup (emit s (.ev .maxRestarts)) none)
  restart : ∀ f s r, s.restarts ≠ s.maxRestarts → S f (trB s) r → T (f + 1) s .user r

theorem proc_ind
    {S : Nat → PSt → PSt → Prop} {I : Nat → PSt → List Msg → PSt → Prop}
    {T : Nat → PSt → Pv → PSt → Prop} (h : Branches S I T)
    (loopFin : ∀ f s msgs s', invokeLoop s msgs = (s', .finished) → I (f + 1) s msgs s')
    (loopPanic : ∀ f s msgs s' v buf r, invokeLoop s msgs = (s', .panicked v buf) →
      T f { s' with mbuffer := buf } v r → I (f + 1) s msgs r) :
    ∀ f s, S f s (start f s).1 ∧ (∀ msgs, I f s msgs (invoke f s msgs).1) ∧
      (∀ v, T f s v (tryRestart f s v).1) := by
  intro f
  induction f with
  | zero =>
    intro s
    refine ⟨?_, ?_, ?_⟩
    · rw [start]; exact h.fuelS s
    · intro msgs; rw [invoke]; exact h.fuelI s msgs
    · intro v; rw [tryRestart]; exact h.fuelT s v
  | succ f ih =>
    intro s
    refine ⟨?_, ?_, ?_⟩
    · rw [start_succ_fst]
      split
      · rename_i v h1; exact h.initPanic f s v _ h1 ((ih _).2.2 v)
      · rename_i h1
        split
        · rename_i v h2; exact h.startedPanic f s v _ h1 h2 ((ih _).2.2 v)
        · rename_i h2
          split
          · rename_i hb; exact h.started f s h1 h2 hb
          · rename_i hb; exact h.replayed f s _ h1 h2 hb ((ih _).2.1 _)
    · intro msgs
      rw [invoke_succ_fst]
      split
      · rename_i s' he; exact loopFin f s msgs s' he
      · rename_i s' v buf he; exact loopPanic f s msgs s' v buf _ he ((ih _).2.2 v)
    · intro v
      cases v
      · rw [tryRestart_succ_user_fst]
        split
        · rename_i hr; exact h.maxed f s hr
        · rename_i hr; exact h.restart f s _ hr (ih _).1
      · rw [tryRestart_succ_ierr_fst]; exact h.ierr f s _ (ih _).1

@[simp] theorem usersOf_nil : usersOf [] = [] := rfl
@[simp] theorem usersOf_user (k : Nat) (snd : Option Nat) (ms : List Msg) :
    usersOf (.user k snd :: ms) = (k, snd) :: usersOf ms := rfl
@[simp] theorem usersOf_pill (i : Nat) (g : Bool) (ms : List Msg) :
    usersOf (.pill i g :: ms) = usersOf ms := rfl
@[simp] theorem usersOf_append (a b : List Msg) : usersOf (a ++ b) = usersOf a ++ usersOf b := by
  induction a with
  | nil => rfl
  | cons m a ih => cases m <;> simp [ih]

@[simp] theorem pillsOf_nil : pillsOf [] = [] := rfl
@[simp] theorem pillsOf_user (k : Nat) (snd : Option Nat) (ms : List Msg) :
    pillsOf (.user k snd :: ms) = pillsOf ms := rfl
@[simp] theorem pillsOf_pill (i : Nat) (g : Bool) (ms : List Msg) :
    pillsOf (.pill i g :: ms) = (i, g) :: pillsOf ms := rfl
@[simp] theorem pillsOf_append (a b : List Msg) : pillsOf (a ++ b) = pillsOf a ++ pillsOf b := by
  induction a with
  | nil => rfl
  | cons m a ih => cases m <;> simp [ih]

@[simp] theorem userRecvs_nil : userRecvs [] = [] := rfl
@[simp] theorem userRecvs_append (a b : List Ev) : userRecvs (a ++ b) = userRecvs a ++ userRecvs b := by
  induction a with
  | nil => rfl
  | cons e a ih =>
    -- by the equations of `userRecvs` the goal is `ih`, under the same head if `e` is a user delivery
    cases e with
    | recv inc m mw reg =>
      cases m with
      | user k s => exact congrArg _ ih
      | _ => exact ih
    | _ => exact ih

@[simp] theorem cancelsOf_nil : cancelsOf [] = [] := rfl
@[simp] theorem cancelsOf_append (a b : List Ev) : cancelsOf (a ++ b) = cancelsOf a ++ cancelsOf b := by
  induction a with
  | nil => rfl
  | cons e a ih => cases e <;> simp [cancelsOf, ih]

/-- the events of delivering the user messages `D` in state `s`. -/
def recvEvs (s : PSt) (D : List (Nat × Option Nat)) : List Ev :=
  D.map fun u => Ev.recv s.inc (.user u.1 u.2) s.mwLen s.registered

/-- `s` after delivering `D`, the script being `scr` afterwards. -/
def upd (s : PSt) (D : List (Nat × Option Nat)) (scr : List Outcome) : PSt :=
  { s with trace := s.trace ++ recvEvs s D, script := scr }

@[simp] theorem recvEvs_nil (s : PSt) : recvEvs s [] = [] := rfl
theorem recvEvs_append (s : PSt) (a b) : recvEvs s (a ++ b) = recvEvs s a ++ recvEvs s b := by
  simp [recvEvs]
@[simp] theorem userRecvs_recvEvs (s : PSt) (D) : userRecvs (recvEvs s D) = D := by
  induction D with
  | nil => rfl
  | cons u D ih => simpa [recvEvs, userRecvs] using ih
@[simp] theorem cancelsOf_recvEvs (s : PSt) (D) : cancelsOf (recvEvs s D) = [] := by
  induction D with
  | nil => rfl
  | cons u D ih => simpa [recvEvs, cancelsOf] using ih

@[simp] theorem upd_trace (s : PSt) (D scr) : (upd s D scr).trace = s.trace ++ recvEvs s D := rfl
@[simp] theorem upd_script (s : PSt) (D scr) : (upd s D scr).script = scr := rfl
@[simp] theorem upd_inc (s : PSt) (D scr) : (upd s D scr).inc = s.inc := rfl
@[simp] theorem upd_mbuffer (s : PSt) (D scr) : (upd s D scr).mbuffer = s.mbuffer := rfl
@[simp] theorem upd_stopped (s : PSt) (D scr) : (upd s D scr).stopped = s.stopped := rfl
@[simp] theorem upd_fuelOut (s : PSt) (D scr) : (upd s D scr).fuelOut = s.fuelOut := rfl
@[simp] theorem upd_inboxOpen (s : PSt) (D scr) : (upd s D scr).inboxOpen = s.inboxOpen := rfl
@[simp] theorem upd_registered (s : PSt) (D scr) : (upd s D scr).registered = s.registered := rfl
@[simp] theorem upd_restarts (s : PSt) (D scr) : (upd s D scr).restarts = s.restarts := rfl
@[simp] theorem upd_maxRestarts (s : PSt) (D scr) : (upd s D scr).maxRestarts = s.maxRestarts := rfl
@[simp] theorem upd_mwLen (s : PSt) (D scr) : (upd s D scr).mwLen = s.mwLen := rfl

theorem upd_nil (s : PSt) : upd s [] s.script = s := by simp [upd]
theorem upd_upd (s : PSt) (D D' scr scr') : upd (upd s D scr) D' scr' = upd s (D ++ D') scr' := by
  simp [upd, recvEvs]

/-- `callRecv_spec` for a user message, the state written with `upd`. -/
theorem callRecv_user (s : PSt) (k : Nat) (snd : Option Nat) :
    ∃ scr r, callRecv s (.user k snd) = (upd s [(k, snd)] scr, r) ∧
      scr.length ≤ s.script.length ∧ ∀ v, r = some v → scr.length < s.script.length :=
  have ⟨sc, h1, h2, h3⟩ := callRecv_spec (s := s) (m := .user k snd) rfl
  ⟨sc, _, Prod.ext h1 rfl, h2, h3⟩

theorem drain_pill (s : PSt) (p : Msg) (i : Nat) (g : Bool) (rest : List Msg) :
    drain s p (.pill i g :: rest) = drain s p rest := rfl

theorem drain_user_none (s : PSt) (p : Msg) (k snd) (rest : List Msg)
    (h : (callRecv s (.user k snd)).2 = none) :
    drain s p (.user k snd :: rest) = drain (callRecv s (.user k snd)).1 p rest := by
  rw [drain, invokeMsg]; split <;> simp_all

theorem drain_user_some (s : PSt) (p : Msg) (k snd) (rest : List Msg) (v : Pv)
    (h : (callRecv s (.user k snd)).2 = some v) :
    drain s p (.user k snd :: rest) = ((callRecv s (.user k snd)).1, some (v, rest ++ [p])) := by
  rw [drain, invokeMsg]; split <;> simp_all

theorem invokeLoop_pill_ng (s : PSt) (i : Nat) (rest : List Msg) :
    invokeLoop s (.pill i false :: rest) = (cleanup s (some i), .finished) := by
  simp [invokeLoop]

theorem invokeLoop_pill_g (s : PSt) (i : Nat) (rest : List Msg) :
    invokeLoop s (.pill i true :: rest) =
      match drain s (.pill i true) rest with
      | (s', some (v, buf)) => (s', .panicked v buf)
      | (s', none) => (cleanup s' (some i), .finished) := by
  rw [invokeLoop]; simp only [if_true]; rfl

theorem invokeLoop_user_none (s : PSt) (k snd) (rest : List Msg)
    (h : (callRecv s (.user k snd)).2 = none) :
    invokeLoop s (.user k snd :: rest) = invokeLoop (callRecv s (.user k snd)).1 rest := by
  rw [invokeLoop]; split <;> simp_all

theorem invokeLoop_user_some (s : PSt) (k snd) (rest : List Msg) (v : Pv)
    (h : (callRecv s (.user k snd)).2 = some v) :
    invokeLoop s (.user k snd :: rest) = ((callRecv s (.user k snd)).1, .panicked v rest) := by
  rw [invokeLoop]; split <;> simp_all

/-- What `drain` behind the pill `p` returns: every user message of `msgs` delivered, or a panic at
    one of them, with what is behind it and then the pill to be buffered. -/
inductive DrainSpec (s : PSt) (p : Msg) (msgs : List Msg) (r : PSt × Option (Pv × List Msg)) : Prop
  | done (scr : List Outcome) (hs : scr.length ≤ s.script.length)
      (hr : r = (upd s (usersOf msgs) scr, none))
  | pan (pre : List Msg) (k : Nat) (snd : Option Nat) (rest : List Msg) (scr : List Outcome) (v : Pv)
      (hm : msgs = pre ++ .user k snd :: rest) (hs : scr.length < s.script.length)
      (hr : r = (upd s (usersOf pre ++ [(k, snd)]) scr, some (v, rest ++ [p])))

theorem drain_spec (p : Msg) (msgs : List Msg) (s : PSt) : DrainSpec s p msgs (drain s p msgs) := by
  induction msgs generalizing s with
  | nil => exact .done s.script (Nat.le_refl _) (by simp [drain, upd_nil])
  | cons m msgs ih =>
    cases m with
    | pill i g =>
      -- `drain` and `usersOf` skip a pill by computation, so `hr` holds of the longer list as it is
      cases ih s with
      | done scr hs hr => exact .done scr hs hr
      | pan pre k snd rest scr v hm hs hr =>
        subst hm
        exact .pan (.pill i g :: pre) k snd rest scr v rfl hs hr
    | user k snd =>
      obtain ⟨scr₁, r, hc, hle, hlt⟩ := callRecv_user s k snd
      rw [drain, invokeMsg, hc]
      cases r with
      | some v => exact .pan [] k snd msgs scr₁ v rfl (hlt v rfl) rfl
      | none =>
        cases ih (upd s [(k, snd)] scr₁) with
        | done scr hs hr =>
          rw [upd_upd] at hr
          exact .done scr (Nat.le_trans hs hle) hr
        | pan pre k' snd' rest scr v hm hs hr =>
          subst hm; rw [upd_upd] at hr
          exact .pan (.user k snd :: pre) k' snd' rest scr v rfl (Nat.lt_of_lt_of_le hs hle) hr

/-- The four ways the delivery loop ends, the state written as `upd` of the user messages delivered:
    no pill met; the first pill reached and, if graceful, what is behind it drained; a panic before
    any pill; a panic in the drain behind a graceful pill, which goes into the buffer again. -/
inductive LoopSpec (s : PSt) (msgs : List Msg) : PSt → Loop → Prop
  | fin_nopill (scr : List Outcome) (hp : pillsOf msgs = []) (hs : scr.length ≤ s.script.length) :
      LoopSpec s msgs (upd s (usersOf msgs) scr) .finished
  | fin_pill (pre : List Msg) (id : Nat) (g : Bool) (post : List Msg) (scr : List Outcome)
      (hm : msgs = pre ++ .pill id g :: post) (hp : pillsOf pre = [])
      (hs : scr.length ≤ s.script.length) :
      LoopSpec s msgs
        (cleanup (upd s (usersOf pre ++ if g then usersOf post else []) scr) (some id)) .finished
  | pan_user (pre : List Msg) (k : Nat) (snd : Option Nat) (buf : List Msg) (scr : List Outcome)
      (v : Pv) (hm : msgs = pre ++ .user k snd :: buf) (hp : pillsOf pre = [])
      (hs : scr.length < s.script.length) :
      LoopSpec s msgs (upd s (usersOf pre ++ [(k, snd)]) scr) (.panicked v buf)
  | pan_drain (pre : List Msg) (id : Nat) (post : List Msg) (k : Nat) (snd : Option Nat)
      (rest : List Msg) (scr : List Outcome) (v : Pv)
      (hm : msgs = pre ++ .pill id true :: (post ++ .user k snd :: rest)) (hp : pillsOf pre = [])
      (hs : scr.length < s.script.length) :
      LoopSpec s msgs (upd s (usersOf pre ++ (usersOf post ++ [(k, snd)])) scr)
        (.panicked v (rest ++ [.pill id true]))

theorem invokeLoop_spec (msgs : List Msg) : ∀ (s s' : PSt) (o : Loop),
    invokeLoop s msgs = (s', o) → LoopSpec s msgs s' o := by
  induction msgs with
  | nil =>
    intro s s' o h
    cases h
    simpa [upd_nil] using LoopSpec.fin_nopill (s := s) (msgs := []) s.script rfl (Nat.le_refl _)
  | cons m msgs ih =>
    intro s s' o h
    cases m with
    | pill i g =>
      cases g with
      | false =>
        cases h
        simpa [upd_nil] using
          LoopSpec.fin_pill (s := s) [] i false msgs s.script rfl rfl (Nat.le_refl _)
      | true =>
        rw [invokeLoop, if_pos rfl] at h
        cases drain_spec (.pill i true) msgs s with
        | done scr hs hd =>
          rw [hd] at h
          cases h
          exact .fin_pill [] i true msgs scr rfl rfl hs
        | pan post k snd rest scr v hm hs hd =>
          subst hm; rw [hd] at h
          cases h
          exact .pan_drain [] i post k snd rest scr v rfl rfl hs
    | user k snd =>
      obtain ⟨scr₁, r, hc, hle, hlt⟩ := callRecv_user s k snd
      rw [invokeLoop, hc] at h
      cases r with
      | some v =>
        cases h
        exact .pan_user [] k snd msgs scr₁ v rfl rfl (hlt v rfl)
      | none =>
        cases ih _ s' o h with
        | fin_nopill scr hp hs =>
          rw [upd_upd]
          exact .fin_nopill scr hp (Nat.le_trans hs hle)
        | fin_pill pre id g post scr hm hp hs =>
          subst hm; rw [upd_upd]
          exact .fin_pill (.user k snd :: pre) id g post scr rfl hp (Nat.le_trans hs hle)
        | pan_user pre k' snd' buf scr v hm hp hs =>
          subst hm; rw [upd_upd]
          exact .pan_user (.user k snd :: pre) k' snd' buf scr v rfl hp (Nat.lt_of_lt_of_le hs hle)
        | pan_drain pre id post k' snd' rest scr v hm hp hs =>
          subst hm; rw [upd_upd]
          exact .pan_drain (.user k snd :: pre) id post k' snd' rest scr v rfl hp
            (Nat.lt_of_lt_of_le hs hle)

theorem invokeLoop_script_lt {s s' : PSt} {msgs buf : List Msg} {v : Pv}
    (h : invokeLoop s msgs = (s', .panicked v buf)) : s'.script.length < s.script.length := by
  generalize ho : Loop.panicked v buf = o at h
  cases invokeLoop_spec msgs s s' o h <;> cases ho <;> simpa

/-- `Branches`, and what `I` owes in the four structural cases of the delivery loop (`LoopSpec`):
    for properties that relate the result of a call to the messages it was given. -/
structure Rel (S : Nat → PSt → PSt → Prop) (I : Nat → PSt → List Msg → PSt → Prop)
    (T : Nat → PSt → Pv → PSt → Prop) : Prop extends Branches S I T where
  loopDone : ∀ f s msgs scr, pillsOf msgs = [] →
    I (f + 1) s msgs (upd s (usersOf msgs) scr)
  loopPill : ∀ f s pre id g post scr, pillsOf pre = [] →
    I (f + 1) s (pre ++ .pill id g :: post)
      (cleanup (upd s (usersOf pre ++ if g then usersOf post else []) scr) (some id))
  loopPanic : ∀ f s pre k snd buf scr v r, pillsOf pre = [] →
    T f { upd s (usersOf pre ++ [(k, snd)]) scr with mbuffer := buf } v r →
    I (f + 1) s (pre ++ .user k snd :: buf) r
  drainPanic : ∀ f s pre id post k snd rest scr v r, pillsOf pre = [] →
    T f { upd s (usersOf pre ++ (usersOf post ++ [(k, snd)])) scr with
          mbuffer := rest ++ [.pill id true] } v r →
    I (f + 1) s (pre ++ .pill id true :: (post ++ .user k snd :: rest)) r

theorem Rel.sound {S : Nat → PSt → PSt → Prop} {I : Nat → PSt → List Msg → PSt → Prop}
    {T : Nat → PSt → Pv → PSt → Prop} (h : Rel S I T) :
    ∀ f s, S f s (start f s).1 ∧ (∀ msgs, I f s msgs (invoke f s msgs).1) ∧
      (∀ v, T f s v (tryRestart f s v).1) := by
  apply proc_ind h.toBranches
  · intro f s msgs s' he
    cases invokeLoop_spec msgs s s' _ he with
    | fin_nopill scr hp _ => exact h.loopDone f s msgs scr hp
    | fin_pill pre id g post scr hm hp _ => subst hm; exact h.loopPill f s pre id g post scr hp
  · intro f s msgs s' v buf r he ht
    generalize hb : buf = buf' at he
    cases invokeLoop_spec msgs s s' _ he with
    | pan_user pre k snd buf scr v hm hp hs =>
      subst hm; subst hb; exact h.loopPanic f s pre k snd _ scr v r hp ht
    | pan_drain pre id post k snd rest scr v hm hp hs =>
      subst hm; subst hb; exact h.drainPanic f s pre id post k snd rest scr v r hp ht

theorem Rel.start {S : Nat → PSt → PSt → Prop} {I : Nat → PSt → List Msg → PSt → Prop}
    {T : Nat → PSt → Pv → PSt → Prop} (h : Rel S I T) (f : Nat) (s : PSt) : S f s (start f s).1 :=
  (h.sound f s).1

theorem Rel.invoke {S : Nat → PSt → PSt → Prop} {I : Nat → PSt → List Msg → PSt → Prop}
    {T : Nat → PSt → Pv → PSt → Prop} (h : Rel S I T) (f : Nat) (s : PSt) (msgs : List Msg) :
    I f s msgs (invoke f s msgs).1 :=
  (h.sound f s).2.1 msgs

@[simp] theorem runBatches_nil (fuel : Nat) (s : PSt) : runBatches fuel s [] = (s, none) := rfl

theorem runBatches_cons (fuel : Nat) (s : PSt) (b : List Msg) (bs : List (List Msg)) :
    runBatches fuel s (b :: bs) =
      if s.inboxOpen then runBatches fuel (invoke fuel s b).1 bs else (s, none) := by
  rw [runBatches, invoke_eq]

theorem runHistory_eq (max mw : Nat) (script : List Outcome) (batches : List (List Msg)) :
    runHistory max mw script batches =
      runBatches (3 * script.length + 6) (spawn (3 * script.length + 6) max mw script).1 batches := by
  rw [runHistory, spawn, start_eq]

theorem runBatches_closed (fuel : Nat) (s : PSt) (bs : List (List Msg)) (h : s.inboxOpen = false) :
    runBatches fuel s bs = (s, none) := by
  cases bs with
  | nil => rfl
  | cons b bs => rw [runBatches_cons]; simp [h]

end HW.Proc
