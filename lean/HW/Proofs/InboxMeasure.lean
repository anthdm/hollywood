import HW.Proofs.InboxStep
/-!
Termination measure for the L1 inbox model.

A lexicographic pair `(prim, sec)` encoded into `Nat` as `prim * (6 * W0 + 1) + sec`:

* `prim s = Σ_threads pw pc + |q|` — progress of senders / starter / stoppers plus the queue length.
  It strictly decreases on every sender, starter and stopper step and on every successful `PopN`,
  and is unchanged by every other worker step.  Every step that changes `status = stopped` or
  `q = []` (the "mode") is a `prim`-decreasing step.
* `sec s = Σ_threads rk mode pc` — a ranking of the worker program points that DEPENDS ON THE MODE
  (stopped / live with empty queue / live with non-empty queue).  Within one mode some worker
  transitions are impossible, and the remaining ones (including "`wSched` spawns a fresh `wLoad`")
  strictly decrease the rank.
* `wt s = Σ_threads ww pc` — live workers + spawns still possible; never increases, and
  `sec s ≤ 6 * wt s`, which is what makes the `Nat` encoding of the lexicographic order sound.
-/
namespace HW.Inbox

def sumBy (f : Pc → Nat) (l : List Pc) : Nat := (l.map f).sum

@[simp] theorem sumBy_nil (f : Pc → Nat) : sumBy f [] = 0 := rfl
@[simp] theorem sumBy_cons (f : Pc → Nat) (a : Pc) (l : List Pc) :
    sumBy f (a :: l) = f a + sumBy f l := by simp [sumBy]
@[simp] theorem sumBy_append (f : Pc → Nat) (l l' : List Pc) :
    sumBy f (l ++ l') = sumBy f l + sumBy f l' := by simp [sumBy]

theorem sumBy_step {l : List Pc} {t : Nat} {pc : Pc} (h : l[t]? = some pc) (f : Pc → Nat)
    (pc' : Pc) (extra : List Pc) :
    sumBy f (l.set t pc' ++ extra) + f pc = sumBy f l + f pc' + sumBy f extra := by
  obtain ⟨l₁, l₂, rfl, hs⟩ := split_at h
  simp +arith only [hs, sumBy_append, sumBy_cons]

theorem sumBy_le {f g : Pc → Nat} (c : Nat) (h : ∀ pc, f pc ≤ c * g pc) (l : List Pc) :
    sumBy f l ≤ c * sumBy g l := by
  induction l with
  | nil => simp
  | cons a l ih =>
    simp only [sumBy_cons, Nat.mul_add]
    exact Nat.add_le_add (h a) ih

/-- primary weight: senders, starter, stoppers. A message still to be pushed weighs 3: the push
    takes `sPush (m :: ms)` to `sSched ms` (−2) and lengthens the queue by one (+1), the call of
    `schedule()` that follows takes the remaining 1. -/
def pw : Pc → Nat
  | .sPush ms => 3 * ms.length
  | .sSched ms => 3 * ms.length + 1
  | .stLife => 4
  | .stCas => 3
  | .stSwap => 2
  | .stSched => 1
  | .stop => 1
  | _ => 0

/-- live workers + number of `schedule()` calls a non-worker thread can still make. -/
def ww : Pc → Nat
  | .sPush ms => ms.length
  | .sSched ms => ms.length + 1
  | .stop => 0
  | .done => 0
  | _ => 1

/-- Secondary rank of a program point in mode `(stopped, empty)`. A worker only moves down:
    stopped: invoke 6 > load 5 > pop 4 > cas 3 > len 2 > sched 1 (`wSched` cannot spawn, its CAS needs `idle`);
    live, queue empty: sched 5 (spawns a `wLoad`) > load 4 > pop 3 > cas 2 > len 1;
    live, queue non-empty: cas 5 > len 4 > sched 3 (spawns a `wLoad`) > load 2 > pop 1, and the
    pop that follows takes a batch, which decreases `prim`. -/
def rk (stopped empty : Bool) : Pc → Nat
  | .wInvoke _ => if stopped then 6 else if empty then 5 else 3
  | .wLoad => if stopped then 5 else if empty then 4 else 2
  | .wPop => if stopped then 4 else if empty then 3 else 1
  | .wCasIdle => if stopped then 3 else if empty then 2 else 5
  | .wLen => if stopped then 2 else if empty then 1 else 4
  | .wSched => if stopped then 1 else if empty then 5 else 3
  | _ => 0

def prim (s : St) : Nat := sumBy pw s.thr + s.q.length
def sec (s : St) : Nat := sumBy (rk (decide (s.status = .stopped)) (decide (s.q = []))) s.thr
def wt (s : St) : Nat := sumBy ww s.thr

theorem rk_le (b1 b2 : Bool) (pc : Pc) : rk b1 b2 pc ≤ 6 * ww pc := by
  -- only the six worker points have a rank; there both sides are a finite table
  cases pc <;> simp only [rk, ww, Nat.zero_le] <;> cases b1 <;> cases b2 <;> decide

theorem sec_le (s : St) : sec s ≤ 6 * wt s := sumBy_le 6 (rk_le _ _) s.thr

theorem rk_afterSched (b1 b2 : Bool) (ms : List Msg) : rk b1 b2 (afterSched ms) = 0 := by
  unfold afterSched; split <;> rfl

/-- the rank function of the mode `s` is in: `sec s = sumBy (mrk s) s.thr`. -/
def mrk (s : St) : Pc → Nat := rk (decide (s.status = .stopped)) (decide (s.q = []))

/-- What a step does to the weights of the thread that moves and of those it spawns, and to the
    queue: `ww` does not grow; `pw` plus the queue length shrinks, or stays while the mode stays
    and the rank in that mode shrinks. -/
theorem Step.weights {B : Nat} (hB : 1 ≤ B) {s s' : St} {t : Nat} {pc pc' : Pc} {extra : List Pc}
    (h : Step B s t pc pc' extra s') :
    ww pc' + sumBy ww extra ≤ ww pc ∧
    (pw pc' + sumBy pw extra + s'.q.length < pw pc + s.q.length ∨
      (pw pc' + sumBy pw extra + s'.q.length = pw pc + s.q.length ∧ mrk s' = mrk s ∧
        mrk s pc' + sumBy (mrk s) extra < mrk s pc)) := by
  unfold mrk
  cases h
  case pop hq =>
    have := List.length_pos_iff.2 hq
    simp [pw, ww]; omega
  case schedOk hst hsp | schedFail hst hsp =>
    cases hsp
    case sender ms => unfold afterSched; split <;> simp [pw, ww] <;> omega
    case starter => simp [pw, ww]
    case worker =>
      cases hq : decide (s.q = []) <;> cases hs : decide (s.status = .stopped) <;>
        simp [pw, ww, rk] <;> simp_all
  case push | life | stCasOk | stCasFail | swap | stop =>
    refine ⟨?_, Or.inl ?_⟩ <;> simp [pw, ww] <;> omega
  -- the other steps of workers: the mode stays (`running` and `idle` are both live), the rank decreases:
  -- mode by mode `simp [rk]` compares the ranks, `simp_all` refutes the modes the step's guard excludes
  case casOk hst =>
    refine ⟨by simp [ww], Or.inr ⟨rfl, by simp [hst], ?_⟩⟩
    cases hq : decide (s.q = []) <;> simp [rk, hst]
  all_goals
    refine ⟨by simp [ww], Or.inr ⟨rfl, rfl, ?_⟩⟩
    cases hq : decide (s.q = []) <;> cases hs : decide (s.status = .stopped) <;> simp [rk] <;> simp_all

theorem Step.measure {B : Nat} (hB : 1 ≤ B) {s s' : St} {t : Nat} {pc pc' : Pc} {extra : List Pc}
    (hpc : s.thr[t]? = some pc) (h : Step B s t pc pc' extra s') :
    wt s' ≤ wt s ∧ (prim s' < prim s ∨ (prim s' = prim s ∧ sec s' < sec s)) := by
  have hS : ∀ f : Pc → Nat, sumBy f s'.thr + f pc = sumBy f s.thr + f pc' + sumBy f extra := by
    intro f; rw [h.thr_eq]; exact sumBy_step hpc f pc' extra
  obtain ⟨h1, h2⟩ := h.weights hB
  show _ ∧ (_ ∨ (_ ∧ sumBy (mrk s') s'.thr < sumBy (mrk s) s.thr))
  unfold wt prim
  refine ⟨by have := hS ww; omega, ?_⟩
  have hP := hS pw
  rcases h2 with h2 | ⟨h2, e, h3⟩
  · exact Or.inl (by omega)
  · rw [e]
    exact Or.inr ⟨by omega, by have := hS (mrk s); omega⟩

/-- the `Nat` encoding of the lexicographic measure, for a bound `W0` on `wt`. -/
def potential (W0 : Nat) (s : St) : Nat := prim s * (6 * W0 + 1) + sec s

theorem Step.potential_lt {B : Nat} (hB : 1 ≤ B) {W0 : Nat} {s s' : St} {t : Nat} {pc pc' : Pc}
    {extra : List Pc} (hpc : s.thr[t]? = some pc) (h : Step B s t pc pc' extra s')
    (hW : wt s ≤ W0) : wt s' ≤ W0 ∧ potential W0 s' < potential W0 s := by
  obtain ⟨h1, h2⟩ := h.measure hB hpc
  have hW' := Nat.le_trans h1 hW
  refine ⟨hW', ?_⟩
  unfold potential
  rcases h2 with h2 | ⟨h2, h3⟩
  · have hs : sec s' ≤ 6 * W0 := Nat.le_trans (sec_le s') (Nat.mul_le_mul_left 6 hW')
    have hm : (prim s' + 1) * (6 * W0 + 1) ≤ prim s * (6 * W0 + 1) :=
      Nat.mul_le_mul_right _ h2
    rw [Nat.add_mul] at hm
    omega
  · rw [h2]; exact Nat.add_lt_add_left h3 _

end HW.Inbox
