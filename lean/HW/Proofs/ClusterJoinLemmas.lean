import HW.Proofs.ClusterSys
/-! Helpers for `joiner_learns_all`: the topology outputs of `handleMembers`, the shape of `snapshot`,
    folding `addActivated` over a topology, and the invariant kept while the topologies are delivered. -/
namespace HW.Cluster

theorem mem_topoIds_handle {st : AgentSt} {snap : List Member} {t : String} :
    t ∈ topoIds (handleMembers st snap).2 ↔ st.activated ≠ [] ∧ t ∈ ids snap ∧ t ∉ ids st.members := by
  rw [handle_topoIds]
  split <;> simp [*, mem_ids_except, mem_ids_mkSet]

theorem except_eq_nil {s t : List Member} (h : ∀ id ∈ ids s, id ∈ ids t) : except s t = [] := by
  unfold except
  rw [List.filter_eq_nil_iff]
  intro m hm
  have := hasId_iff.2 (h m.id (List.mem_map_of_mem hm))
  simp [this]

/-- nobody left: the activations are untouched. -/
theorem handle_activated (st : AgentSt) (snap : List Member) (h : ∀ id ∈ ids st.members, id ∈ ids snap) :
    (handleMembers st snap).1.activated = st.activated := by
  rw [handleMembers_fst, except_eq_nil h, runAll_join]
  rfl

end HW.Cluster

namespace HW.ClusterSys
open HW.Cluster

/-- what `snapshot` does with one output of `handleMembers`. -/
def topoStep (nid : String) (note : Note) (s : Sys) (o : AgentOut) : Sys :=
  match o with
  | .topology toId _ =>
    if toId = nid then
      (match getNode s nid with | some self => handleNote s self note | none => s)
    else { s with pool := s.pool ++ [(toId, note)] }
  | _ => s

theorem topoStep_fold (nid : String) (note : Note) (outs : List AgentOut) (s : Sys)
    (ht : ∀ t ∈ topoIds outs, t ≠ nid) :
    (outs.foldl (topoStep nid note) s).nodes = s.nodes ∧
    (outs.foldl (topoStep nid note) s).pool = s.pool ++ (topoIds outs).map (fun t => (t, note)) := by
  induction outs generalizing s with
  | nil => exact ⟨rfl, (List.append_nil _).symm⟩
  | cons o os ih =>
    cases o with
    | topology t l =>
      have hstep : topoStep nid note s (.topology t l) = { s with pool := s.pool ++ [(t, note)] } :=
        if_neg (ht t List.mem_cons_self)
      obtain ⟨h1, h2⟩ := ih (topoStep nid note s (.topology t l))
        fun t' ht' => ht t' (List.mem_cons_of_mem _ ht')
      rw [List.foldl_cons, h1, h2, hstep]
      exact ⟨rfl, List.append_assoc ..⟩
    | join id => exact ih s ht
    | leave id => exact ih s ht

/-- node `n` after it has handled `snap`, and the topologies it sends on the way. -/
def afterSnapshot (snap : List Member) (n : Node) : Node := { n with agent := (handleMembers n.agent snap).1 }

def toposSent (snap : List Member) (n : Node) : List (String × Note) :=
  (topoIds (handleMembers n.agent snap).2).map fun t => (t, Note.topology (n.agent.activated.map (·.2)))

theorem afterSnapshot_id (snap : List Member) (n : Node) : (afterSnapshot snap n).id = n.id := rfl

theorem snapshot_spec {s : Sys} {n : Node} (snap : List Member) (hn : getNode s n.id = some n)
    (ht : ∀ t ∈ topoIds (handleMembers n.agent snap).2, t ≠ n.id) :
    (snapshot s n.id snap).nodes = (setNode s (afterSnapshot snap n)).nodes ∧
    (snapshot s n.id snap).pool = s.pool ++ toposSent snap n := by
  have : snapshot s n.id snap =
      (handleMembers n.agent snap).2.foldl (topoStep n.id (Note.topology (n.agent.activated.map (·.2))))
        (setNode s (afterSnapshot snap n)) := by
    unfold snapshot; rw [hn]; rfl
  rw [this]
  exact topoStep_fold _ _ _ _ ht

/-- a round of snapshots over nodes with distinct ids, none of which sends a topology to itself:
    each of them ends up as `afterSnapshot`, the others are untouched, the pool collects the `toposSent`. -/
theorem snapshot_fold (snap : List Member) (rest : List Node) {acc : Sys}
    (hnd : (acc.nodes.map (·.id)).Nodup) (hrn : (rest.map (·.id)).Nodup) (hin : ∀ n ∈ rest, n ∈ acc.nodes)
    (ht : ∀ n ∈ rest, ∀ t ∈ topoIds (handleMembers n.agent snap).2, t ≠ n.id) :
    (rest.foldl (fun acc n => snapshot acc n.id snap) acc).nodes =
      acc.nodes.map (fun y => if y.id ∈ rest.map (·.id) then afterSnapshot snap y else y) ∧
    (rest.foldl (fun acc n => snapshot acc n.id snap) acc).pool = acc.pool ++ rest.flatMap (toposSent snap) := by
  induction rest generalizing acc with
  | nil => simp
  | cons n rest ih =>
    obtain ⟨hn, hrn'⟩ : n.id ∉ rest.map (·.id) ∧ (rest.map (·.id)).Nodup := List.nodup_cons.mp hrn
    have hnin := hin n (by simp)
    obtain ⟨hnodes, hpool⟩ := snapshot_spec snap (getNode_of_mem_nodup hnd hnin) (ht n (by simp))
    obtain ⟨h1, h2⟩ := ih (acc := snapshot acc n.id snap) (by rw [hnodes, setNode_ids]; exact hnd) hrn'
      (fun m hm => by
        rw [hnodes]
        exact mem_setNode_of_ne (hin m (List.mem_cons_of_mem _ hm))
          fun e => hn (List.mem_map.mpr ⟨m, hm, e⟩))
      (fun m hm => ht m (List.mem_cons_of_mem _ hm))
    rw [List.foldl_cons, h1, h2, hpool, hnodes]
    refine ⟨?_, by simp⟩
    simp only [setNode, List.map_map]
    refine List.map_congr_left fun y hy => ?_
    by_cases e : y.id = n.id
    · cases eq_of_map_eq hnd hy hnin e
      simp only [Function.comp_apply, afterSnapshot_id, if_true, hn, if_false, List.map_cons, List.mem_cons, true_or]
    · simp only [Function.comp_apply, afterSnapshot_id, e, if_false, List.map_cons, List.mem_cons, false_or]

/-- a topology built from a well-keyed table `A` fills exactly the gaps of the receiver's table:
    known ids keep their entry, unknown ones get the first entry of `A`. -/
theorem fold_addActivated_find (A : List (String × Pid)) (hA : ∀ e ∈ A, e.1 = e.2.2) (a : AgentSt)
    (k : String) :
    ((A.map (·.2)).foldl addActivated a).activated.find? (·.1 = k) =
      (a.activated.find? (·.1 = k)).or (A.find? (·.1 = k)) := by
  induction A generalizing a with
  | nil => simp
  | cons e A ih =>
    have he : e = (e.2.2, e.2) := by rw [← hA e (by simp)]
    rw [List.map_cons, List.foldl_cons, ih (fun e' he' => hA e' (List.mem_cons_of_mem _ he')),
      addActivated_find, Option.or_assoc, List.find?_cons, ← he]
    by_cases hk : e.2.2 = k <;> simp [hk, hA e (by simp)]

/-- invariant while the topologies for the joiner `xid` are in flight; `G` is how the old members
    resolve ids. Every topology in flight carries all of `G` (`poolOK`), so the first one delivered
    settles the joiner, and the later ones change nothing: it resolves like `G` already, or knows
    nothing while one is still to come (`joiner`). -/
structure JInv (xid : String) (G : String → Option Pid) (s : Sys) : Prop where
  struct : Struct s
  keys : ∀ n ∈ s.nodes, ∀ a ∈ n.agent.activated, a.1 = a.2.2
  old : ∀ y ∈ s.nodes, y.id ≠ xid → ∀ k, getActiveByID y k = G k
  poolOK : ∀ e ∈ s.pool, e.1 = xid ∧ ∃ A : List (String × Pid), e.2 = .topology (A.map (·.2)) ∧
    (∀ a ∈ A, a.1 = a.2.2) ∧ ∀ k, (A.find? (·.1 = k)).map (·.2) = G k
  joiner : ∀ y ∈ s.nodes, y.id = xid →
    (∀ k, getActiveByID y k = G k) ∨ ((∀ k, getActiveByID y k = none) ∧ s.pool ≠ [])
  xin : ∃ y ∈ s.nodes, y.id = xid

theorem jinv_deliver {xid : String} {G : String → Option Pid} (s : Sys) (i : Nat) (hi : JInv xid G s)
    (hlt : i < s.pool.length) : JInv xid G (deliver s i) := by
  obtain ⟨htgt, A, hnote, hA, hAG⟩ := hi.poolOK _ (List.getElem_mem hlt)
  obtain ⟨x, hx, hxid⟩ := hi.xin
  have hgx : getNode s (s.pool[i]).1 = some x := by
    rw [htgt, ← hxid]; exact getNode_of_mem_nodup hi.struct.nodup hx
  rw [deliver_eq hlt, hgx]
  obtain ⟨x', hid', hag, hnodes, hpool⟩ :=
    handleNote_eq { s with pool := s.pool.eraseIdx i } x (s.pool[i]).2
  have hx'id : x'.id = xid := hid'.trans hxid
  -- the joiner after the delivery: what it knew already stays, the gaps are filled from `A`
  have hxG : ∀ k, getActiveByID x' k = G k := by
    intro k
    have : getActiveByID x' k = (getActiveByID x k).or (G k) := by
      simp only [getActiveByID, hag, hnote, applyNote, fold_addActivated_find A hA, Option.map_or, hAG k]
    rw [this]
    rcases hi.joiner x hx hxid with h | ⟨h, _⟩ <;> rw [h k]
    · exact Option.or_self
    · rfl
  refine ⟨?_, ?_, ?_, ?_, ?_, ?_⟩
  · exact struct_congr hnodes (struct_setNode (s := { s with pool := s.pool.eraseIdx i }) hi.struct hx
      (by rw [hag]; exact applyNote_members _ _))
  · rw [hnodes]
    exact forall_setNode (hag ▸ applyNote_keys _ _ (hi.keys x hx)) hi.keys
  · rw [hnodes]
    exact forall_setNode (fun hne => absurd hx'id hne) hi.old
  · intro e he
    rw [hpool] at he
    exact hi.poolOK e (List.mem_of_mem_eraseIdx he)
  · intro y hy hid
    rw [hnodes] at hy
    rcases mem_setNode hy with rfl | ⟨_, hne⟩
    · exact Or.inl hxG
    · exact absurd (hid.trans hx'id.symm) hne
  · rw [hnodes]
    exact ⟨x', List.mem_map.mpr ⟨x, hx, if_pos hid'.symm⟩, hx'id⟩

theorem jinv_consistent {xid : String} {G : String → Option Pid} {s : Sys} (hi : JInv xid G s)
    (hp : s.pool = []) : Consistent s ∧ ∀ y ∈ s.nodes, ∀ k, getActiveByID y k = G k := by
  have hall : ∀ y ∈ s.nodes, ∀ k, getActiveByID y k = G k := by
    intro y hy k
    by_cases hid : y.id = xid
    · rcases hi.joiner y hy hid with h | ⟨_, h⟩
      · exact h k
      · exact absurd hp h
    · exact hi.old y hy hid k
  exact ⟨.of_struct hi.struct hp (fun n hn m hm k => by rw [hall n hn k, hall m hm k]) hi.keys, hall⟩

end HW.ClusterSys
