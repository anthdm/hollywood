import HW.Proofs.Inbox
import HW.Proofs.InboxMeasure
namespace HW.Inbox

/-- effective steps of a schedule (entries naming a finished / non-existent thread are skipped). -/
def effSteps (B : Nat) (s : St) : List Nat → Nat
  | [] => 0
  | t :: ts => match step B s t with
    | none => effSteps B s ts
    | some (s', _) => 1 + effSteps B s' ts

theorem effSteps_le_potential {B : Nat} (hB : 1 ≤ B) (W0 : Nat) (sched : List Nat) :
    ∀ s, wt s ≤ W0 → effSteps B s sched ≤ potential W0 s := by
  induction sched with
  | nil => intro s _; exact Nat.zero_le _
  | cons t ts ih =>
    intro s hW
    unfold effSteps
    split
    · exact ih s hW
    · rename_i s' l hs
      obtain ⟨pc, pc', extra, hpc, hS⟩ := step_Step hs
      obtain ⟨hW', hlt⟩ := hS.potential_lt hB hpc hW
      rw [Nat.add_comm]
      exact Nat.lt_of_le_of_lt (ih s' hW') hlt

/-- Termination: from every initial configuration (any number of senders with any programs, any number
    of stoppers, any batch size ≥ 1) there is a bound on the number of steps ANY schedule can take —
    the protocol has no infinite runs (no live-lock: e.g. workers cannot keep re-spawning each other). -/
theorem terminates (B : Nat) (hB : 1 ≤ B) (senders : List (List Msg)) (nStop : Nat) :
    ∃ N, ∀ sched, effSteps B (init senders nStop) sched ≤ N :=
  ⟨potential (wt (init senders nStop)) (init senders nStop),
    fun sched => effSteps_le_potential hB _ sched _ (Nat.le_refl _)⟩

theorem stuck_is_quiescent (B : Nat) (s : St) (h : ∀ t, step B s t = none) : quiescent s = true := by
  unfold quiescent
  rw [List.all_eq_true]
  intro pc hmem
  obtain ⟨t, ht⟩ := List.getElem?_of_mem hmem
  have hs := h t
  unfold step at hs
  rw [ht] at hs
  cases pc with
  | sPush ms => cases ms with
    | nil => rfl
    | cons m ms => simp at hs
  | done => rfl
  | wPop => by_cases hq : s.q = [] <;> simp [hq] at hs
  | wCasIdle => by_cases hq : s.status = .running <;> simp [hq] at hs
  | stCas => by_cases hq : s.status = .stopped <;> simp [hq] at hs
  | _ => simp at hs

/-- Liveness in its "every maximal run" form: every run that cannot be extended (no thread has a step
    left — which, by `terminates`, every run reaches after finitely many steps under any scheduler that
    keeps scheduling enabled threads) of a never stopped inbox has delivered everything that was
    accepted, with no further send needed. -/
theorem maximal_run_delivers_all (B : Nat) (hB : 1 ≤ B) (senders : List (List Msg)) (nStop : Nat) (sched : List Nat)
    (hmax : ∀ t, step B (runSched B (init senders nStop) sched) t = none)
    (hn : (runSched B (init senders nStop) sched).everStopped = false) :
    (runSched B (init senders nStop) sched).q = [] ∧
    (runSched B (init senders nStop) sched).delivered = (runSched B (init senders nStop) sched).pushed.map (·.2) :=
  (quiescent_all_delivered B hB senders nStop _ ⟨sched, rfl⟩ (stuck_is_quiescent B _ hmax) hn).2.2

end HW.Inbox
