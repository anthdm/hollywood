/-
C07, partial: with at most one pill in the history and the restart budget never exhausted, the pill
is cancelled exactly once.
-/
import HW.Proofs.ProcFrame
namespace HW.Proc

@[simp] theorem cancelsOf_cons_recv (a m b c tr) : cancelsOf (.recv a m b c :: tr) = cancelsOf tr := rfl
@[simp] theorem cancelsOf_cons_ev (k tr) : cancelsOf (.ev k :: tr) = cancelsOf tr := rfl
@[simp] theorem cancelsOf_cons_producer (k tr) : cancelsOf (.producer k :: tr) = cancelsOf tr := rfl
@[simp] theorem cancelsOf_cons_cancel (k tr) : cancelsOf (.cancel k :: tr) = k :: cancelsOf tr := rfl
@[simp] theorem cancelsOf_cons_inboxStop (tr) : cancelsOf (.inboxStop :: tr) = cancelsOf tr := rfl
@[simp] theorem cancelsOf_cons_inboxStart (k tr) : cancelsOf (.inboxStart k :: tr) = cancelsOf tr := rfl
@[simp] theorem cancelsOf_cons_unregister (tr) : cancelsOf (.unregister :: tr) = cancelsOf tr := rfl
@[simp] theorem cancelsOf_stAEvs (s : PSt) : cancelsOf (stAEvs s) = [] := rfl
@[simp] theorem cancelsOf_stBEvs (s : PSt) : cancelsOf (stBEvs s) = [] := rfl
@[simp] theorem cancelsOf_stCEvs (s : PSt) : cancelsOf (stCEvs s) = [] := rfl
@[simp] theorem cancelsOf_trBEvs (s : PSt) : cancelsOf (trBEvs s) = [] := rfl
@[simp] theorem cancelsOf_stEndEvs (s : PSt) : cancelsOf (stEndEvs s) = [] := by
  unfold stEndEvs; split <;> rfl
@[simp] theorem cancelsOf_cleanupEvs_none (s : PSt) : cancelsOf (cleanupEvs s none) = [] := rfl
@[simp] theorem cancelsOf_cleanupEvs_some (s : PSt) (id) : cancelsOf (cleanupEvs s (some id)) = [id] := rfl

/-- pill accounting of a run from `s` to `r` that was given `msgs`: without a pill the process
    lives on and cancels nothing, with one it stops and cancels that one. The three premises rule
    out the other ways a process ends: out of fuel, by giving up, or stopped before the run. -/
def PP (s : PSt) (msgs : List Msg) (r : PSt) : Prop :=
  r.fuelOut = false → Ev.ev .maxRestarts ∉ r.trace → s.stopped = false →
    (pillsOf msgs = [] → r.stopped = false ∧ cancelsOf r.trace = cancelsOf s.trace) ∧
    (∀ p, pillsOf msgs = [p] → r.stopped = true ∧ cancelsOf r.trace = cancelsOf s.trace ++ [p.1])

theorem PP.pre {s s' r : PSt} {msgs msgs' : List Msg} (h : PP s' msgs' r)
    (hs : s'.stopped = s.stopped) (hc : cancelsOf s'.trace = cancelsOf s.trace)
    (h0 : pillsOf msgs = [] → pillsOf msgs' = [])
    (h1 : ∀ p, pillsOf msgs = [p] → pillsOf msgs' = [p]) : PP s msgs r := by
  intro a b c
  obtain ⟨x, y⟩ := h a b (by rw [hs]; exact c)
  rw [hc] at x y
  exact ⟨fun e => x (h0 e), fun p e => y p (h1 p e)⟩

theorem PP.post {s r r' : PSt} {msgs : List Msg} (h : PP s msgs r)
    (hf : r'.fuelOut = r.fuelOut) (hm : Ev.ev .maxRestarts ∉ r'.trace → Ev.ev .maxRestarts ∉ r.trace)
    (hs : r'.stopped = r.stopped) (hc : cancelsOf r'.trace = cancelsOf r.trace) : PP s msgs r' := by
  intro a b c
  rw [hf] at a
  rw [hs, hc]
  exact h a (hm b) c

theorem pill_rel :
    Rel (fun _ s r => PP s s.mbuffer r)
      (fun _ s msgs r => PP s msgs r)
      (fun _ s _ r => PP s s.mbuffer r) where
  fuelS := by intro s h; simp at h
  fuelI := by intro s _ h; simp at h
  fuelT := by intro s _ h; simp at h
  initPanic := fun f s v r _ h => h.pre (by simp) (by simp) (by simp) (by simp)
  startedPanic := fun f s v r _ _ h => h.pre (by simp) (by simp) (by simp) (by simp)
  started := by
    intro f s _ _ hb _ _ hs
    simp [hb, hs]
  replayed := by
    intro f s r _ _ _ h
    refine (h.pre (by simp) (by simp) id (fun _ => id)).post (by simp) ?_ (by simp) (by simp)
    intro hm hr; apply hm; simp [hr]
  loopDone := by
    intro f s msgs scr hp _ _ hs
    simp [hp, hs]
  loopPill := by
    intro f s pre id g post scr hp _ _ hs
    simp [hp]
  loopPanic := fun f s pre k snd buf scr v r hp h =>
    h.pre (by simp) (by simp) (by simp [hp]) (by simp [hp])
  drainPanic := by
    intro f s pre id post k snd rest scr v r hp h
    refine h.pre (by simp) (by simp) (by simp [hp]) ?_
    intro p
    simp only [pillsOf_append, pillsOf_pill, pillsOf_user, hp, List.nil_append, List.cons.injEq,
      List.append_eq_nil_iff, pillsOf_nil]
    rintro ⟨rfl, h1, h2⟩
    simp [h2]
  ierr := fun f s r h => h.pre (by simp) (by simp) (by simp) (by simp)
  maxed := by
    intro f s _ _ hm
    simp at hm
  restart := fun f s r _ h => h.pre (by simp) (by simp) (by simp) (by simp)

theorem pill_runBatches {n F : Nat} (hF : 3 * n + 1 ≤ F) : ∀ bs s, Shape.Rest n s →
    Ev.ev .maxRestarts ∉ (runBatches F s bs).1.trace → s.stopped = false →
    (pillsOf bs.flatten = [] → cancelsOf (runBatches F s bs).1.trace = cancelsOf s.trace) ∧
    (∀ p, pillsOf bs.flatten = [p] →
      cancelsOf (runBatches F s bs).1.trace = cancelsOf s.trace ++ [p.1]) :=
  runBatches_rest hF
    (M := fun s bs r => Ev.ev .maxRestarts ∉ r.trace → s.stopped = false →
      (pillsOf bs.flatten = [] → cancelsOf r.trace = cancelsOf s.trace) ∧
      (∀ p, pillsOf bs.flatten = [p] → cancelsOf r.trace = cancelsOf s.trace ++ [p.1]))
    (done := fun s bs h hb _ hs => by
      rcases hb with rfl | hc
      · simp
      · simp [h.inbox, hs] at hc)
    -- `b0`, `b1`: the accounting of batch `b` if it holds no pill, one pill
    (stop := fun s b bs _ h1 hst hm hs => by
      -- a batch that stops the process held the pill
      obtain ⟨b0, b1⟩ := pill_rel.invoke F s b h1.fuel hm hs
      rw [List.flatten_cons, pillsOf_append]
      refine ⟨fun h => ?_, fun p h => ?_⟩
      · rw [(b0 (List.append_eq_nil_iff.1 h).1).1] at hst; cases hst
      · rcases List.append_eq_singleton_iff.1 h with ⟨h1, _⟩ | ⟨h1, _⟩
        · rw [(b0 h1).1] at hst; cases hst
        · exact (b1 p h1).2)
    (cont := fun s b bs r _ h1 hst hfr ih hm hs => by
      -- a batch that leaves the process running held none: the pill, if any, is in the rest
      obtain ⟨b0, b1⟩ := pill_rel.invoke F s b h1.fuel (hfr.not_mem hm) hs
      obtain ⟨r0, r1⟩ := ih hm hst
      rw [List.flatten_cons, pillsOf_append]
      refine ⟨fun h => ?_, fun p h => ?_⟩
      · rw [List.append_eq_nil_iff] at h
        rw [r0 h.2, (b0 h.1).2]
      · rcases List.append_eq_singleton_iff.1 h with ⟨h1, h2⟩ | ⟨h1, _⟩
        · rw [r1 p h2, (b0 h1).2]
        · rw [(b1 p h1).1] at hst; cases hst)

/-- partial form of "every pill is cancelled": with at most one pill in the history, and the restart
    budget never exhausted, the pill is cancelled exactly once — whatever panics happen, also
    while draining behind it. -/
theorem single_pill_cancelled (max mw : Nat) (script : List Outcome) (batches : List (List Msg))
    (h1 : (pillsOf batches.flatten).length ≤ 1)
    (hm : Ev.ev .maxRestarts ∉ (runHistory max mw script batches).1.trace) :
    allPillsCancelled batches (runHistory max mw script batches).1.trace = true := by
  unfold allPillsCancelled
  rw [runHistory_eq] at hm ⊢
  have hr := Shape.rest_spawn (3 * script.length + 6) max mw script (by simp)
  obtain ⟨sp0, _⟩ := pill_rel.start (3 * script.length + 6)
    { maxRestarts := max, mwLen := mw, script := script } hr.fuel
    ((frame_runBatches _ batches _).not_mem hm) rfl
  obtain ⟨_, one⟩ := pill_runBatches (n := script.length) (by simp) batches _ hr hm (sp0 rfl).1
  have a2 : cancelsOf (spawn (3 * script.length + 6) max mw script).1.trace = [] := (sp0 rfl).2
  match hp : pillsOf batches.flatten, h1 with
  | [], _ => rfl
  | [p], _ =>
    rw [one p hp, a2]
    simp
  | _ :: _ :: _, h1 => simp at h1

end HW.Proc
