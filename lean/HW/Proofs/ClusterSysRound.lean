import HW.Proofs.ClusterSysLemmas
/-! A generic "broadcast round": `bcast` of one notification followed by `drain` in any order. -/
namespace HW.ClusterSys
open HW.Cluster

/-- same statement as `ViewOK` of `HW.Proofs.ClusterSys` (which imports this file). -/
def View (s : Sys) : Prop := ∀ n ∈ s.nodes, ∀ id, id ∈ ids n.agent.members ↔ ∃ m ∈ s.nodes, m.id = id

def Struct (s : Sys) : Prop :=
  (s.nodes.map (·.id)).Nodup ∧ (∀ n ∈ s.nodes, idsNodup n.agent.members) ∧ View s

theorem Struct.nodup {s : Sys} (h : Struct s) : (s.nodes.map (·.id)).Nodup := h.1
theorem Struct.members {s : Sys} (h : Struct s) : ∀ n ∈ s.nodes, idsNodup n.agent.members := h.2.1
theorem Struct.view {s : Sys} (h : Struct s) : View s := h.2.2

theorem struct_congr {s s' : Sys} (h : s'.nodes = s.nodes) (hs : Struct s) : Struct s' := by
  unfold Struct View at *; rw [h]; exact hs

/-- `Struct` only looks at ids and views: replacing a node by a record whose view some node already
    has changes nothing. -/
theorem struct_setNode {s : Sys} {t n : Node} (hs : Struct s) (ht : t ∈ s.nodes)
    (hm : n.agent.members = t.agent.members) : Struct (setNode s n) := by
  refine ⟨by rw [setNode_ids]; exact hs.nodup, forall_setNode (hm ▸ hs.members t ht) hs.members, ?_⟩
  have hv : ∀ y ∈ s.nodes, ∀ id, id ∈ ids y.agent.members ↔ ∃ m ∈ (setNode s n).nodes, m.id = id :=
    fun y hy id => by rw [← List.mem_map, setNode_ids, List.mem_map]; exact hs.view y hy id
  exact forall_setNode (hm ▸ hv t ht) hv

/-- what handling `note` does to one agent: it applies `f`, which only touches key `k`. -/
structure Spec (note : Note) (k : String) (f : AgentSt → AgentSt) (Done OK : AgentSt → Prop) : Prop where
  handle : ∀ (s : Sys) (n : Node), ∃ n' : Node, n'.id = n.id ∧ n'.agent = f n.agent ∧
    (handleNote s n note).nodes = (setNode s n').nodes ∧ (handleNote s n note).pool = s.pool
  members : ∀ a, (f a).members = a.members
  other : ∀ a k', k' ≠ k → (f a).activated.find? (·.1 = k') = a.activated.find? (·.1 = k')
  keys : ∀ a, (∀ e ∈ a.activated, e.1 = e.2.2) → ∀ e ∈ (f a).activated, e.1 = e.2.2
  done : ∀ a, OK a → Done (f a) ∧ OK (f a)

/-- invariant of a round that does not mention who still has to be notified. -/
structure Base (note : Note) (k : String) (OK : AgentSt → Prop) (s : Sys) : Prop where
  struct : Struct s
  keys : ∀ n ∈ s.nodes, ∀ a ∈ n.agent.activated, a.1 = a.2.2
  agreeOther : ∀ n ∈ s.nodes, ∀ m ∈ s.nodes, ∀ k', k' ≠ k → getActiveByID n k' = getActiveByID m k'
  ok : ∀ n ∈ s.nodes, OK n.agent
  poolNote : ∀ e ∈ s.pool, e.2 = note

section Round
variable {note : Note} {k : String} {f : AgentSt → AgentSt} {Done OK : AgentSt → Prop}

/-- every notification is handled by `applyNote`; what is left to say about one of them is what it
    does to the key of the round. -/
theorem Spec.of_applyNote
    (other : ∀ a k', k' ≠ k →
      (applyNote note a).activated.find? (·.1 = k') = a.activated.find? (·.1 = k'))
    (done : ∀ a, OK a → Done (applyNote note a) ∧ OK (applyNote note a)) :
    Spec note k (applyNote note) Done OK :=
  ⟨fun s n => handleNote_eq s n note, applyNote_members note, other, applyNote_keys note, done⟩

theorem base_congr {s s' : Sys} (hn : s'.nodes = s.nodes) (hp : ∀ e ∈ s'.pool, e.2 = note)
    (hb : Base note k OK s) : Base note k OK s' :=
  ⟨struct_congr hn hb.struct, hn ▸ hb.keys, hn ▸ hb.agreeOther, hn ▸ hb.ok, hp⟩

theorem base_setNode {s : Sys} {t n' : Node} (hb : Base note k OK s) (ht : t ∈ s.nodes)
    (hm : n'.agent.members = t.agent.members)
    (hk : ∀ a ∈ n'.agent.activated, a.1 = a.2.2) (hok : OK n'.agent)
    (ho : ∀ k', k' ≠ k → getActiveByID n' k' = getActiveByID t k') : Base note k OK (setNode s n') := by
  refine ⟨struct_setNode hb.struct ht hm, forall_setNode hk hb.keys, ?_, forall_setNode hok hb.ok,
    hb.poolNote⟩
  have key : ∀ y ∈ (setNode s n').nodes, ∀ k', k' ≠ k → getActiveByID y k' = getActiveByID t k' :=
    forall_setNode ho fun y hy => hb.agreeOther y hy t ht
  intro y hy z hz k' hk'
  rw [key y hy k' hk', key z hz k' hk']

/-- handling the notification at `n` makes `n` done and leaves the others as they were: whatever
    (`R`) excused them from being done still does. -/
theorem handle_base (sp : Spec note k f Done OK) {s : Sys} {n : Node} (hb : Base note k OK s)
    (hn : n ∈ s.nodes) {R : Node → Prop} (h : ∀ y ∈ s.nodes, y.id ≠ n.id → Done y.agent ∨ R y) :
    Base note k OK (handleNote s n note) ∧ (handleNote s n note).pool = s.pool ∧
    ∀ y ∈ (handleNote s n note).nodes, Done y.agent ∨ R y := by
  obtain ⟨n', hid, hag, hnodes, hpool⟩ := sp.handle s n
  have hd := sp.done _ (hb.ok n hn)
  have hb' : Base note k OK (setNode s n') := by
    apply base_setNode hb hn
    · rw [hag]; exact sp.members _
    · rw [hag]; exact sp.keys _ (hb.keys n hn)
    · rw [hag]; exact hd.2
    · intro k' hk'
      simp only [getActiveByID, hag, sp.other _ k' hk']
  refine ⟨base_congr hnodes (by rw [hpool]; exact hb.poolNote) hb', hpool, ?_⟩
  intro y hy
  rw [hnodes] at hy
  rcases mem_setNode hy with rfl | ⟨hy', hne⟩
  · exact Or.inl (hag ▸ hd.1)
  · exact h y hy' (hid ▸ hne)

/-- the round invariant: every node is done or still has its notification in the pool. -/
structure Inv (note : Note) (k : String) (Done OK : AgentSt → Prop) (s : Sys) : Prop where
  base : Base note k OK s
  waiting : ∀ n ∈ s.nodes, Done n.agent ∨ (n.id, note) ∈ s.pool

theorem deliver_inv (sp : Spec note k f Done OK) (s : Sys) (i : Nat) (hi : Inv note k Done OK s)
    (hlt : i < s.pool.length) : Inv note k Done OK (deliver s i) := by
  obtain ⟨hb, hp⟩ := hi
  have hnote : (s.pool[i]).2 = note := hb.poolNote _ (List.getElem_mem hlt)
  have hb1 : Base note k OK { s with pool := s.pool.eraseIdx i } :=
    base_congr (s := s) rfl (fun e he => hb.poolNote e (List.mem_of_mem_eraseIdx he)) hb
  -- the notification of another node stays in the pool
  have hkeep : ∀ y ∈ s.nodes, y.id ≠ (s.pool[i]).1 →
      Done y.agent ∨ (y.id, note) ∈ s.pool.eraseIdx i :=
    fun y hy hne => (hp y hy).imp_right fun hmem => mem_eraseIdx_of_ne hmem hlt fun e => hne (by rw [← e])
  rw [deliver_eq hlt, hnote]
  split
  · rename_i hnone
    exact ⟨hb1, fun y hy => hkeep y hy (getNode_none hnone y hy)⟩
  · rename_i n hsome
    obtain ⟨hn, hid⟩ := getNode_some hsome
    obtain ⟨hb2, hpool, hd⟩ := handle_base sp hb1 hn (hid ▸ hkeep)
    exact ⟨hb2, hpool ▸ hd⟩

/-- `bcast` step by step: a node is done, has its notification in the pool, or is among the members
    the loop has not reached yet. -/
theorem bcast_fold_inv (sp : Spec note k f Done OK) (n : Node) (ms : List Member) {s : Sys}
    (hb : Base note k OK s)
    (h : ∀ y ∈ s.nodes, Done y.agent ∨ (y.id, note) ∈ s.pool ∨ y.id ∈ ids ms) :
    Inv note k Done OK (bcast s n ms note) := by
  unfold bcast
  induction ms generalizing s with
  | nil => exact ⟨hb, fun y hy => (h y hy).imp_right fun h' => h'.resolve_right (by simp [ids])⟩
  | cons m ms ih =>
    rw [List.foldl_cons]
    -- a node other than `m` that waited for the loop still does
    have hrest : ∀ y ∈ s.nodes, y.id ≠ m.id → Done y.agent ∨ (y.id, note) ∈ s.pool ∨ y.id ∈ ids ms :=
      fun y hy hne => (h y hy).imp_right (Or.imp_right fun h' => (List.mem_cons.mp h').resolve_left hne)
    by_cases hm : m.id = n.id
    · rw [if_pos hm]
      split
      · rename_i self hself
        obtain ⟨hs, hsid⟩ := getNode_some hself
        obtain ⟨hb2, hpool, hd⟩ := handle_base sp hb hs ((hsid.trans hm.symm) ▸ hrest)
        exact ih hb2 (hpool ▸ hd)
      · rename_i hnone
        exact ih hb fun y hy => hrest y hy (hm ▸ getNode_none hnone y hy)
    · rw [if_neg hm]
      refine ih (base_congr (s := s) rfl ?_ hb) fun y hy => ?_
      · intro e he
        rcases List.mem_append.mp he with he | he
        · exact hb.poolNote e he
        · rw [List.mem_singleton.mp he]
      · by_cases e : y.id = m.id
        · exact Or.inr (Or.inl (by rw [e]; simp))
        · exact (hrest y hy e).imp_right (Or.imp_left (List.mem_append_left _))

end Round

/-- the shape of `activate`: nil and unchanged (or only a spawn), or a spawn followed by a broadcast. -/
theorem activate_shape (s : Sys) (nid kind id : String) (sel : Option Nat) :
    (activate s nid kind id sel).2 = none ∨
    ∃ n t m n1, getNode s nid = some n ∧ getActiveByID n (key kind id) = none ∧
      m ∈ n.agent.members ∧ m.kinds.contains kind = true ∧ getNode s m.id = some t ∧
      t.localKinds.contains kind = true ∧
      getNode (spawnOn s t (key kind id)) nid = some n1 ∧
      activate s nid kind id sel =
        (bcast (spawnOn s t (key kind id)) n1 n1.agent.members (.activation (t.host, key kind id)),
         some (t.host, key kind id)) := by
  fun_cases activate s nid kind id sel
  -- every branch but one returns `none`
  any_goals exact Or.inl rfl
  rename_i n hn _ hk _ _ i m hm t ht hl _ _ n1 hn1
  have hmem := List.mem_of_getElem? hm
  rw [mem_sortById, List.mem_filter] at hmem
  have hnone : getActiveByID n (key kind id) = none :=
    getActiveByID_none.mpr (List.find?_eq_none.mpr fun x hx e => hk (List.any_eq_true.mpr ⟨x, hx, e⟩))
  exact Or.inr ⟨n, t, m, n1, hn, hnone, hmem.1, hmem.2, ht, by simpa using hl, hn1, rfl⟩

end HW.ClusterSys
