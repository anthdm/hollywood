import HW.Model.Wire
namespace HW.Wire
variable {P : Type}

theorem idx_nat {α : Type} (l : List α) (n : Nat) : idx l (n : Int) = l[n]? :=
  if_neg (Int.not_lt.2 (Int.natCast_nonneg n))

theorem prefix_getElem? {α : Type} {a b : List α} (h : a <+: b) {i : Nat} {x : α}
    (hx : a[i]? = some x) : b[i]? = some x := by
  obtain ⟨hi, rfl⟩ := List.getElem?_eq_some_iff.1 hx
  exact List.prefix_iff_getElem?.1 h i hi

/-- lookup table `m` is sound w.r.t. `tbl`. -/
def WF {κ : Type} [DecidableEq κ] (m : List (κ × Nat)) (tbl : List κ) : Prop :=
  m.length = tbl.length ∧ ∀ k i, m.lookup k = some i → tbl[i]? = some k

theorem WF_nil {κ : Type} [DecidableEq κ] : WF ([] : List (κ × Nat)) [] :=
  ⟨rfl, fun _ _ h => nomatch h⟩

/-- what a table lookup of the writer returns: an index `i`, a sound lookup table for a table
    `tbl'` that extends `tbl`, such that `i` names `v` in `tbl'` and in whatever extends it. -/
def Looked {κ : Type} [DecidableEq κ] (tbl : List κ) (v : Option κ) :
    Int × List (κ × Nat) × List κ → Prop
  | (i, m, tbl') => WF m tbl' ∧ tbl <+: tbl' ∧ ∀ t, tbl' <+: t → idx t i = v

/-- the index is cast to `Int`, as the writer stores it. -/
theorem lookupIdx_spec {κ : Type} [DecidableEq κ] (m : List (κ × Nat)) (k : κ) (tbl : List κ)
    (h : WF m tbl) :
    Looked tbl (some k) ((lookupIdx m k tbl).1, (lookupIdx m k tbl).2) := by
  unfold lookupIdx
  cases hl : m.lookup k with
  | some i => exact ⟨h, List.prefix_refl _, fun _ hp => idx_nat .. ▸ prefix_getElem? hp (h.2 k i hl)⟩
  | none =>
    obtain ⟨hlen, hs⟩ := h
    have hk : (tbl ++ [k])[m.length]? = some k := hlen.symm ▸ List.getElem?_concat_length
    refine ⟨⟨by simp [hlen], fun k' i hk' => ?_⟩, List.prefix_append _ _,
      fun _ hp => idx_nat .. ▸ prefix_getElem? hp hk⟩
    rw [List.lookup_cons] at hk'
    split at hk'
    · rename_i heq; cases hk'; exact (eq_of_beq heq).symm ▸ hk
    · exact prefix_getElem? (List.prefix_append _ _) (hs k' i hk')

/-- the sender column of the writer: `nil` is index `-1` and leaves the table alone. -/
def senderIdx (l : List (Pid × Nat)) (tbl : List Pid) :
    Option Pid → Int × List (Pid × Nat) × List Pid
  | none => (-1, l, tbl)
  | some s => ((lookupIdx l s tbl).1, (lookupIdx l s tbl).2)

theorem senderIdx_spec {l : List (Pid × Nat)} {tbl : List Pid} (h : WF l tbl) (o : Option Pid) :
    Looked tbl o (senderIdx l tbl o) := by
  cases o with
  | none => exact ⟨h, List.prefix_refl _, fun _ _ => rfl⟩
  | some s => exact lookupIdx_spec l s tbl h

/-- `encodeStep` on a proto message, with the case distinctions on sender and serialisation folded
    into `senderIdx` and `Option.elim`. -/
theorem encodeStep_eq (c : Codec P) (st : EncState) (d : Deliver P) (hp : c.isProto d.msg = true) :
    encodeStep c st d =
      let T := lookupIdx st.typeLookup (c.typeName d.msg) st.typeNames
      let S := senderIdx st.senderLookup st.senders d.sender
      let G := lookupIdx st.targetLookup d.target st.targets
      { typeLookup := T.2.1, typeNames := T.2.2, senderLookup := S.2.1, senders := S.2.2,
        targetLookup := G.2.1, targets := G.2.2,
        messages := (c.serialize d.msg).elim st.messages (st.messages ++ [⟨·, T.1, S.1, G.1⟩]) } := by
  unfold encodeStep
  rw [if_neg (by rw [hp]; exact Bool.noConfusion)]
  cases d.sender <;> cases c.serialize d.msg <;> rfl

theorem decodeMsgs_snoc {c : Codec P} {env : Envelope} {ms : List Message} {m : Message}
    {ds : List (Delivery P)} {d : Delivery P}
    (h : decodeMsgs c env ms = (ds, .ok)) (hm : decodeMsg c env m = some d) :
    decodeMsgs c env (ms ++ [m]) = (ds ++ [d], .ok) := by
  induction ms generalizing ds with
  | nil => cases h; simp only [List.nil_append, decodeMsgs, hm]
  | cons a as ih =>
    simp only [decodeMsgs, List.cons_append] at h ⊢
    split at h
    · cases h
    · rename_i d0 ha
      cases hr : decodeMsgs c env as with
      | mk ds0 o => rw [hr] at h; cases h; rw [ih hr]; rfl

theorem decodeMsg_eq_some {c : Codec P} {env : Envelope} {m : Message} {d : Delivery P} :
    decodeMsg c env m = some d ↔ ∃ tname,
      idx env.typeNames m.typeIdx = some tname ∧
      idx env.targets m.targetIdx = some d.target ∧
      c.deserialize m.data tname = some d.payload ∧
      d.sender = idx env.senders m.senderIdx := by
  unfold decodeMsg
  split
  · simp [*]
  · split
    · simp [*]
    · split
      · simp [*]
      · cases d; simp [*, eq_comm]

/-- `dec` speaks of every envelope whose tables EXTEND the state's: while the batch is being encoded
    the tables still grow, and an index written now must mean the same in the final envelope. -/
structure Inv (c : Codec P) (st : EncState) (ds : List (Delivery P)) : Prop where
  wfT : WF st.typeLookup st.typeNames
  wfS : WF st.senderLookup st.senders
  wfG : WF st.targetLookup st.targets
  dec : ∀ env : Envelope, st.typeNames <+: env.typeNames → st.senders <+: env.senders →
    st.targets <+: env.targets → decodeMsgs c env st.messages = (ds, .ok)

theorem Inv_step (c : Codec P) (st : EncState) (ds : List (Delivery P)) (d : Deliver P)
    (h : Inv c st ds) :
    Inv c (encodeStep c st d) (ds ++ if sendable c d then [d.toDelivery] else []) := by
  unfold sendable
  cases hp : c.isProto d.msg with
  | false => rw [encodeStep, if_pos hp]; exact (List.append_nil ds).symm ▸ h
  | true =>
    rw [encodeStep_eq c st d hp]
    obtain ⟨wT, pT, iT⟩ := lookupIdx_spec _ (c.typeName d.msg) _ h.wfT
    obtain ⟨wS, pS, iS⟩ := senderIdx_spec h.wfS d.sender
    obtain ⟨wG, pG, iG⟩ := lookupIdx_spec _ d.target _ h.wfG
    refine ⟨wT, wS, wG, fun env h1 h2 h3 => ?_⟩
    have hd := h.dec env (pT.trans h1) (pS.trans h2) (pG.trans h3)
    cases hser : c.serialize d.msg with
    | none => exact (List.append_nil ds).symm ▸ hd
    | some b =>
      exact decodeMsgs_snoc hd (decodeMsg_eq_some.2
        ⟨_, iT _ h1, iG _ h3, c.roundtrip _ _ hp hser, (iS _ h2).symm⟩)

theorem Inv_foldl (c : Codec P) (batch : List (Deliver P)) (st : EncState)
    (ds : List (Delivery P)) (h : Inv c st ds) :
    Inv c (batch.foldl (encodeStep c) st)
      (ds ++ (batch.filter (sendable c)).map Deliver.toDelivery) := by
  induction batch generalizing st ds with
  | nil => exact (List.append_nil ds).symm ▸ h
  | cons d rest ih =>
    have h' := ih _ _ (Inv_step c st ds d h)
    rw [List.append_assoc] at h'
    rw [List.filter_cons]
    cases hs : sendable c d <;> rw [hs] at h' <;> exact h'

theorem decodeMsgs_justified (c : Codec P) (env : Envelope) (ms : List Message) (d : Delivery P)
    (h : d ∈ (decodeMsgs c env ms).1) : ∃ m ∈ ms, decodeMsg c env m = some d := by
  induction ms with
  | nil => cases h
  | cons a as ih =>
    simp only [decodeMsgs] at h
    split at h
    · cases h
    · rename_i d0 ha
      rcases List.mem_cons.1 h with rfl | h
      · exact ⟨a, List.mem_cons_self, ha⟩
      · obtain ⟨m, hm, hd⟩ := ih h
        exact ⟨m, List.mem_cons_of_mem _ hm, hd⟩

theorem decodeMsgs_count (c : Codec P) (env : Envelope) (ms : List Message) :
    (decodeMsgs c env ms).1.length ≤ ms.length ∧
    ((decodeMsgs c env ms).2 = .ok → (decodeMsgs c env ms).1.length = ms.length) := by
  induction ms with
  | nil => exact ⟨Nat.le_refl _, fun _ => rfl⟩
  | cons a as ih =>
    simp only [decodeMsgs]
    split
    · exact ⟨Nat.zero_le _, nofun⟩
    · exact ⟨Nat.succ_le_succ ih.1, fun ho => congrArg (· + 1) (ih.2 ho)⟩

end HW.Wire
