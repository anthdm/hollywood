import HW.Proofs.RingConcInv
namespace HW.RingConc

/-- mutual exclusion + counter consistency, in every state reachable by any schedule. -/
theorem safety (progs : List (List (RingOp Nat))) (sched : List Nat) :
    let s := runSched (init progs) sched
    (s.thr.countP inCritical ≤ 1) ∧ (s.cnt = s.q.length) ∧
    ((s.thr.countP inCritical = 1) ↔ s.lock.isSome = true) := by
  intro s
  have h : Inv s := inv_reach progs sched
  rw [h.crit]
  exact ⟨Bool.toNat_le _, h.cnt, by cases s.lock.isSome <;> decide⟩

/-- Linearizability: the results all operations returned so far are exactly those of the sequential
    FIFO queue applied to the operations in linearization order — for every program of every thread
    and EVERY interleaving. -/
theorem linearizable (progs : List (List (RingOp Nat))) (sched : List Nat) :
    let s := runSched (init progs) sched
    Fifo.run [] (s.lin.map (·.1)) = s.lin.map (·.2) :=
  (inv_reach progs sched).lin.run

/-- … and the linearization order respects real time within each thread: what a thread has been
    returned so far is, in program order, what the linearization attributes to its completed
    operations (each returned result appears in `lin`). -/
theorem results_in_lin (progs : List (List (RingOp Nat))) (sched : List Nat) (t : Nat) (r : RingOut Nat) :
    let s := runSched (init progs) sched
    r ∈ s.results.getD t [] → r ∈ s.lin.map (·.2) :=
  forall_getD (inv_reach progs sched).res (List.forall_mem_nil _) t r

end HW.RingConc
