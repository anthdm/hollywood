import HW.Model.Registry
import HW.Proofs.Assoc
namespace HW.Registry

theorem lookup_erase (id id' : Id) (l : List (Id × Inst)) :
    lookup id' (erase id l) = if id' = id then none else lookup id' l :=
  Assoc.lookup_erase (fun _ => rfl) (fun _ _ _ _ => rfl) (fun _ => rfl) (fun _ _ _ _ => rfl) id id' l

theorem lookup_none_not_mem {l : List (Id × Inst)} {id : Id} (h : lookup id l = none) :
    id ∉ l.map (·.1) := by
  induction l with
  | nil => exact List.not_mem_nil
  | cons e rest ih =>
    obtain ⟨k, v⟩ := e
    rw [lookup] at h
    split at h
    · cases h
    · rename_i hne
      exact fun hm => (List.mem_cons.1 hm).elim (fun e => hne e.symm) (ih h)

theorem erase_sublist (id : Id) (l : List (Id × Inst)) : (erase id l).Sublist l := by
  induction l with
  | nil => exact .slnil
  | cons e rest ih =>
    obtain ⟨k, v⟩ := e
    rw [erase]
    split
    · exact ih.cons _
    · exact ih.cons_cons _

theorem step_wf (r : Reg) (op : Op) (h : r.WF) : (step r op).1.WF := by
  cases op with
  | add id inst =>
    show (r.add id inst).1.WF
    unfold Reg.add
    split
    · exact h
    · rename_i hnone; exact List.nodup_cons.2 ⟨lookup_none_not_mem hnone, h⟩
  | remove id => exact ((erase_sublist id r.entries).map _).nodup h
  | get id => exact h

theorem run_wf (r : Reg) (ops : List Op) (h : r.WF) : (run r ops).1.WF := by
  induction ops generalizing r with
  | nil => exact h
  | cons op ops ih => exact ih _ (step_wf r op h)

/-- a duplicate add changes nothing. -/
theorem add_dup_noop (r : Reg) (id : Id) (inst inc : Inst) (h : r.get id = some inc) :
    r.add id inst = (r, .dup) := by
  rw [Reg.add, h]

/-- an add of a free id registers exactly that instance and leaves every other id alone. -/
theorem add_free (r : Reg) (id : Id) (inst : Inst) (h : r.get id = none) :
    (r.add id inst).2 = .won ∧ (r.add id inst).1.get id = some inst ∧
    ∀ id', id' ≠ id → (r.add id inst).1.get id' = r.get id' := by
  rw [Reg.add, h]
  exact ⟨rfl, if_pos rfl, fun id' hne => if_neg (Ne.symm hne)⟩

theorem run_add_taken (r : Reg) (id : Id) (inc : Inst) (h : r.get id = some inc) (l : List Inst) :
    run r (l.map (Op.add id)) = (r, l.map fun _ => .added .dup) := by
  induction l with
  | nil => rfl
  | cons j l ih => simp only [List.map_cons, run, step, add_dup_noop r id j inc h, ih]

/-- of any number of adds of one free id (in any order, by any callers) exactly the first wins. -/
theorem one_winner (r : Reg) (id : Id) (insts : List Inst) (h : r.get id = none) (hne : insts ≠ []) :
    ((run r (insts.map (Op.add id))).2.filter (· = Out.added .won)).length = 1 := by
  cases insts with
  | nil => exact absurd rfl hne
  | cons i rest =>
    obtain ⟨h1, h2, _⟩ := add_free r id i h
    show (((Out.added (r.add id i).2) ::
      (run (r.add id i).1 (rest.map (Op.add id))).2).filter (· = Out.added .won)).length = 1
    rw [h1, run_add_taken _ id i h2]
    simp

end HW.Registry
