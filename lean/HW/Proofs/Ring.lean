import HW.Spec.Fifo
namespace HW
namespace Ring
variable {α : Type} [Inhabited α]

/-- the one fact of modular arithmetic the ring needs: `m` consecutive slots are distinct. -/
theorem idx_inj {m a i j : Nat} (hi : i < m) (hj : j < m) (h : (a + i) % m = (a + j) % m) :
    i = j := by
  -- `i - j` and `j - i` are below `m` and vanish modulo `m`, so both are `0`
  have h1 := Nat.sub_mod_eq_zero_of_mod_eq h
  have h2 := Nat.sub_mod_eq_zero_of_mod_eq h.symm
  rw [Nat.add_sub_add_left, Nat.mod_eq_of_lt (Nat.lt_of_le_of_lt (Nat.sub_le ..) ‹_›)] at h1 h2
  exact Nat.le_antisymm (Nat.le_of_sub_eq_zero h1) (Nat.le_of_sub_eq_zero h2)

omit [Inhabited α] in
theorem getD_set_ne {l : List α} {p q : Nat} {v d : α} (h : p ≠ q) :
    (l.set p v).getD q d = l.getD q d := by
  simp only [List.getD_eq_getElem?_getD, List.getElem?_set_ne h]

omit [Inhabited α] in
theorem getD_set_eq {l : List α} {p : Nat} {v d : α} (h : p < l.length) :
    (l.set p v).getD p d = v := by
  simp only [List.getD_eq_getElem?_getD, List.getElem?_set_self h, Option.getD_some]

theorem length_zeroAll (items : List α) (ps : List Nat) :
    (zeroAll items ps).length = items.length := by
  induction ps generalizing items with
  | nil => rfl
  | cons p ps ih => exact (ih _).trans List.length_set

theorem getD_zeroAll_of_not_mem (items : List α) (ps : List Nat) (q : Nat) (d : α)
    (h : q ∉ ps) : (zeroAll items ps).getD q d = items.getD q d := by
  induction ps generalizing items with
  | nil => rfl
  | cons p ps ih =>
    exact (ih _ fun hm => h (List.mem_cons_of_mem _ hm)).trans
      (getD_set_ne fun e => h (e ▸ List.mem_cons_self))

theorem length_growItems (r : Ring α) (t : Nat) : (r.growItems t).length = r.mod + r.mod := by
  simp [growItems]

theorem getD_growItems (r : Ring α) (t j : Nat) (hj : j < r.mod) :
    (r.growItems t).getD j default = r.slot ((t + j) % r.mod) := by
  simp [growItems, List.getD_eq_getElem?_getD, List.getElem?_append, hj]

/-! `abs` maps `rd items head` over `range len`.  What the methods do to `items` and `head` is
said once for `rd`, with `items` and `head` variables; the refinement theorems then only cut
`range len` at the right place. -/

/-- element `i` of the queue that `items` holds behind position `h`. -/
def rd (items : List α) (h i : Nat) : α := items.getD ((h + 1 + i) % items.length) default

theorem abs_mk (items : List α) (head tail len : Nat) :
    abs ⟨items, head, tail, len⟩ = (List.range len).map (rd items head) := rfl

theorem abs_eq (r : Ring α) : r.abs = (List.range r.len).map (rd r.items r.head) := rfl

theorem rd_set {items : List α} {h i j : Nat} (v : α) (hi : i < items.length)
    (hj : j < items.length) :
    rd (items.set ((h + 1 + j) % items.length) v) h i = if j = i then v else rd items h i := by
  unfold rd
  rw [List.length_set]
  split
  next e => rw [e, getD_set_eq (Nat.mod_lt _ (Nat.zero_lt_of_lt hi))]
  next e => exact getD_set_ne fun e' => e (idx_inj hj hi e')

theorem rd_zeroAll {items : List α} {h k i : Nat} (hk : k ≤ i) (hi : i < items.length) :
    rd (zeroAll items ((List.range k).map fun j => (h + 1 + j) % items.length)) h i
      = rd items h i := by
  unfold rd
  rw [length_zeroAll]
  refine getD_zeroAll_of_not_mem _ _ _ _ fun hc => ?_
  obtain ⟨j, hj, e⟩ := List.mem_map.1 hc
  have hji := Nat.lt_of_lt_of_le (List.mem_range.1 hj) hk
  exact Nat.ne_of_lt hji (idx_inj (Nat.lt_trans hji hi) hi e)

/-- `m` is a variable so that the lemma applies under `r.mod`: `popN` computes the new head modulo
    the length of the items before it zeroes them. -/
theorem rd_shift (items : List α) (h k i : Nat) {m : Nat} (hm : m = items.length) :
    rd items ((h + k) % m) i = rd items h (k + i) := by
  unfold rd
  rw [hm, Nat.add_assoc, Nat.mod_add_mod, Nat.add_assoc h 1, Nat.add_left_comm 1 k, Nat.add_assoc]

/-- the buffer `Push` builds when the ring is full: `t = head` and `len + 1 = mod`. -/
theorem rd_grow (r : Ring α) (x : α) (hg : r.len + 1 = r.mod) {i : Nat} (hi : i < r.len + 1) :
    rd ((r.growItems r.head).set r.mod x) 0 i = if r.len = i then x else rd r.items r.head i := by
  unfold rd
  rw [List.length_set, length_growItems, Nat.zero_add, Nat.mod_eq_of_lt (by omega),
    Nat.add_comm 1 i]
  split
  next e => rw [← e, hg, getD_set_eq (by rw [length_growItems]; omega)]
  next e =>
    rw [getD_set_ne (by omega), getD_growItems _ _ _ (by omega), Nat.add_assoc, Nat.add_comm i 1]
    rfl

theorem length_abs (r : Ring α) : r.abs.length = r.len := by
  rw [abs_eq, List.length_map, List.length_range]

theorem abs_take (r : Ring α) {k : Nat} (hk : k ≤ r.len) :
    r.abs.take k = (List.range k).map (rd r.items r.head) := by
  rw [abs_eq, ← List.map_take, List.take_range, Nat.min_eq_left hk]

theorem abs_drop (r : Ring α) (n : Nat) :
    r.abs.drop n = (List.range (r.len - n)).map fun i => rd r.items r.head (n + i) := by
  rw [abs_eq, ← List.map_drop, List.range_eq_range', List.drop_range', List.range'_eq_map_range,
    List.map_map, Nat.mul_one, Nat.zero_add]
  rfl

theorem abs_snoc (r : Ring α) {items : List α} {h : Nat} {x : α}
    (hf : ∀ i, i < r.len + 1 → rd items h i = if r.len = i then x else rd r.items r.head i) :
    (List.range (r.len + 1)).map (rd items h) = r.abs ++ [x] := by
  rw [List.range_succ, List.map_append, abs_eq]
  congr 1
  · refine List.map_congr_left fun i hi => ?_
    have := List.mem_range.1 hi
    rw [hf i (Nat.lt_succ_of_lt this), if_neg (Nat.ne_of_gt this)]
  · rw [List.map_singleton, hf _ (Nat.lt_succ_self _), if_pos rfl]

omit [Inhabited α] in
theorem inv_mk {items : List α} {head tail len m : Nat} (hm : items.length = m) (hh : head < m)
    (hl : len < m) (ht : tail = (head + len) % m) : Inv ⟨items, head, tail, len⟩ := by
  subst hm; exact ⟨Nat.zero_lt_of_lt hh, hh, hl, ht⟩

theorem inv_new (size : Nat) (h : 1 ≤ size) :
    (Ring.new size : Ring α).Inv ∧ (Ring.new size : Ring α).abs = [] :=
  ⟨inv_mk List.length_replicate h h (Nat.zero_mod _).symm, rfl⟩

omit [Inhabited α] in
/-- under the invariant the growth test of `Push` fires exactly when the ring is full. -/
theorem tail_succ_eq_head_iff {r : Ring α} (h : r.Inv) :
    (r.tail + 1) % r.mod = r.head ↔ r.len + 1 = r.mod := by
  obtain ⟨hm, hh, hl, ht⟩ := h
  rw [ht, Nat.mod_add_mod, Nat.add_assoc]
  constructor
  · intro e
    refine Decidable.byContradiction fun hne => ?_
    exact Nat.succ_ne_zero _ <| idx_inj (a := r.head) (j := 0) (Nat.lt_of_le_of_ne hl hne) hm
      (e.trans (Nat.mod_eq_of_lt hh).symm)
  · intro e
    rw [e, Nat.add_mod_right, Nat.mod_eq_of_lt hh]

theorem push_refines (r : Ring α) (x : α) (h : r.Inv) :
    (r.push x).Inv ∧ (r.push x).abs = r.abs ++ [x] := by
  have hfull := tail_succ_eq_head_iff h
  obtain ⟨hm, hh, hl, ht⟩ := h
  simp only [push]
  split
  next hf =>
    have hg := hfull.1 hf
    have hlt : r.mod < r.mod + r.mod := Nat.lt_add_of_pos_right hm
    refine ⟨inv_mk (List.length_set.trans (length_growItems ..)) (Nat.zero_lt_of_lt hlt)
      (hg ▸ hlt) ?_, abs_snoc r fun i hi => ?_⟩
    · rw [Nat.zero_add, hg, Nat.mod_eq_of_lt hlt]
    · rw [hf]; exact rd_grow r x hg hi
  next hf =>
    have hlt : r.len + 1 < r.mod := Nat.lt_of_le_of_ne hl (mt hfull.2 hf)
    have htl : (r.tail + 1) % r.mod = (r.head + 1 + r.len) % r.mod := by
      rw [ht, Nat.mod_add_mod, Nat.add_right_comm]
    refine ⟨inv_mk List.length_set hh hlt (by rw [htl, Nat.add_right_comm]; rfl),
      abs_snoc r fun i hi => ?_⟩
    rw [htl]; exact rd_set x (Nat.lt_trans hi hlt) hl

theorem popN_of_len_ne_zero (r : Ring α) (n : Nat) (h0 : r.len ≠ 0) :
    r.popN n =
      (⟨zeroAll r.items (r.popPositions (min r.len n)), (r.head + min r.len n) % r.mod, r.tail,
        r.len - min r.len n⟩, some ((r.popPositions (min r.len n)).map r.slot)) := by
  rw [popN, if_neg h0]; rfl

theorem popN_refines (r : Ring α) (n : Nat) (h : r.Inv) :
    (r.popN n).1.Inv ∧
    (r.popN n).2 = (if r.abs.isEmpty then none else some (r.abs.take n)) ∧
    (r.popN n).1.abs = r.abs.drop n := by
  by_cases h0 : r.len = 0
  · have : r.abs = [] := by rw [abs_eq, h0]; rfl
    rw [popN, if_pos h0, this]; exact ⟨h, rfl, List.drop_nil.symm⟩
  · obtain ⟨hm, hh, hl, ht⟩ := h
    have hne : r.abs.isEmpty = false := by
      rw [List.isEmpty_eq_false_iff, ← List.length_pos_iff, length_abs]
      exact Nat.pos_of_ne_zero h0
    -- only `k = min len n` elements are there to be taken
    rw [popN_of_len_ne_zero r n h0, hne, List.take_eq_take_min, List.drop_eq_drop_min, length_abs,
      Nat.min_comm n]
    have hk : min r.len n ≤ r.len := Nat.min_le_left ..
    generalize min r.len n = k at hk ⊢
    have hz := length_zeroAll r.items (r.popPositions k)
    refine ⟨inv_mk hz (Nat.mod_lt _ hm) (Nat.lt_of_le_of_lt (Nat.sub_le ..) hl) ?_, ?_, ?_⟩
    · rw [ht]; show _ = (_ % r.mod + _) % r.mod
      rw [Nat.mod_add_mod, Nat.add_assoc, Nat.add_sub_cancel' hk]
    · rw [abs_take r hk, popPositions, List.map_map]; rfl
    · rw [abs_drop, abs_mk]
      refine List.map_congr_left fun i hi => ?_
      have : k + i < r.mod := Nat.lt_trans (Nat.add_lt_of_lt_sub' (List.mem_range.1 hi)) hl
      exact (rd_shift _ _ _ _ hz.symm).trans (rd_zeroAll (Nat.le_add_right ..) this)

/-- `Pop` is `PopN 1`. -/
theorem pop_eq_popN (r : Ring α) : r.pop = ((r.popN 1).1, (r.popN 1).2.bind List.head?) := by
  by_cases h0 : r.len = 0
  · rw [pop, popN, if_pos h0, if_pos h0]; rfl
  · rw [pop, if_neg h0, popN_of_len_ne_zero r 1 h0, Nat.min_eq_right (Nat.pos_of_ne_zero h0)]; rfl

theorem pop_refines (r : Ring α) (h : r.Inv) :
    (r.pop).1.Inv ∧ (r.pop).2 = r.abs.head? ∧ (r.pop).1.abs = r.abs.tail := by
  obtain ⟨hi, ho, ha⟩ := popN_refines r 1 h
  rw [pop_eq_popN]
  refine ⟨hi, ?_, ha.trans List.drop_one⟩
  show (r.popN 1).2.bind List.head? = _
  rw [ho]; cases r.abs <;> rfl

theorem len_refines (r : Ring α) : r.lenOf = r.abs.length :=
  (length_abs r).symm

omit [Inhabited α] in
theorem _root_.HW.Fifo.step_pop (q : List α) : Fifo.step q .pop = (q.tail, .item q.head?) := by
  cases q <;> rfl

omit [Inhabited α] in
theorem _root_.HW.Fifo.step_popN (q : List α) (n : Nat) :
    Fifo.step q (.popN n) = (q.drop n, .items (if q.isEmpty then none else some (q.take n))) := by
  cases q
  · exact congrArg (·, _) List.drop_nil.symm
  · rfl

/-- one step of the ring is one step of the queue: the four method theorems as one simulation. -/
theorem step_refines (r : Ring α) (op : RingOp α) (h : r.Inv) :
    (r.step op).1.Inv ∧ (r.step op).1.abs = (Fifo.step r.abs op).1 ∧
      (r.step op).2 = (Fifo.step r.abs op).2 := by
  cases op with
  | push x =>
    dsimp only [step, Fifo.step]
    exact ⟨(push_refines r x h).1, (push_refines r x h).2, rfl⟩
  | pop =>
    obtain ⟨hi, ho, ha⟩ := pop_refines r h
    rw [Fifo.step_pop]; exact ⟨hi, ha, congrArg _ ho⟩
  | popN n =>
    obtain ⟨hi, ho, ha⟩ := popN_refines r n h
    rw [Fifo.step_popN]; exact ⟨hi, ha, congrArg _ ho⟩
  | len => exact ⟨h, rfl, congrArg _ (len_refines r)⟩

theorem run_refines (ops : List (RingOp α)) (r : Ring α) (h : r.Inv) :
    r.run ops = Fifo.run r.abs ops := by
  induction ops generalizing r with
  | nil => rfl
  | cons op ops ih =>
    obtain ⟨hi, ha, ho⟩ := step_refines r op h
    show (r.step op).2 :: (r.step op).1.run ops = _
    rw [ih _ hi, ha, ho]; rfl

theorem refines_fifo (size : Nat) (h : 1 ≤ size) (ops : List (RingOp α)) :
    (Ring.new size : Ring α).run ops = Fifo.run [] ops := by
  obtain ⟨hi, ha⟩ := inv_new (α := α) size h
  rw [run_refines ops _ hi, ha]

end Ring
end HW
