/-
Trace shapes over whole histories, each an invariant of the primitives or a triple: every delivery
goes through the middleware chain (`WrapInv.inv`, C13), restarts are numbered and bounded (`RestartInv.inv`,
C05/C06), the life cycle of every incarnation (`Rest.triple`, C04, with the resting state `Rest` that
the accounting proofs start from), deliveries end at the current incarnation (`chainTarget_of_lc`,
C13), and the clean stop after the budget is exhausted (`AfterMax.triple`, C06).
-/
import HW.Proofs.ProcHoare
namespace HW.Proc
namespace Shape

/-- containment: no panic ever propagates out of Start / Invoke / tryRestart. -/
theorem no_escape (f : Nat) (s : PSt) :
    (start f s).2 = none ∧ (∀ msgs, (invoke f s msgs).2 = none) ∧ (∀ v, (tryRestart f s v).2 = none) :=
  HW.Proc.no_escape f s

theorem allWrapped_append (n : Nat) (tr tr' : List Ev) :
    allWrapped n (tr ++ tr') = (allWrapped n tr && allWrapped n tr') := by
  induction tr with
  | nil => simp [allWrapped]
  | cons e tr ih => cases e <;> simp [allWrapped, ih, Bool.and_assoc]

def WrapInv (mw : Nat) (s : PSt) : Prop := s.mwLen = mw ∧ allWrapped mw s.trace = true

theorem WrapInv.inv (mw : Nat) : Inv (WrapInv mw) where
  fuel := fun s h => h
  mbuf := fun s b h => h
  recv := by
    intro s m ⟨h1, h2⟩
    simp [WrapInv, allWrapped_append, allWrapped, h1, h2]
  pre := by intro s ⟨h1, h2⟩; simp [WrapInv, startPre, emit, allWrapped_append, allWrapped, h1, h2]
  ev := by intro s k _ ⟨h1, h2⟩; simp [WrapInv, emit, allWrapped_append, allWrapped, h1, h2]
  cleanup := by
    intro s c ⟨h1, h2⟩
    cases c <;> simp [cleanupEvs, WrapInv, allWrapped_append, allWrapped, h1, h2]
  inboxStart := by
    intro s ⟨h1, h2⟩
    simp [WrapInv, allWrapped_append, allWrapped, h1, h2]
  restart := by intro s ⟨h1, h2⟩ _; simp [WrapInv, emit, allWrapped_append, allWrapped, h1, h2]

theorem restartNumbers_append (tr tr' : List Ev) :
    restartNumbers (tr ++ tr') = restartNumbers tr ++ restartNumbers tr' := by
  induction tr with
  | nil => rfl
  | cons e tr ih =>
    -- by the equations of `restartNumbers` the goal is `ih`, under the same head at a restart event
    cases e with
    | ev k =>
      cases k with
      | restarted n => exact congrArg _ ih
      | _ => exact ih
    | _ => exact ih

def RestartInv (max : Nat) (s : PSt) : Prop :=
  s.maxRestarts = max ∧ restartNumbers s.trace = (List.range s.restarts).map (· + 1) ∧ s.restarts ≤ max

theorem RestartInv.inv (max : Nat) : Inv (RestartInv max) where
  fuel := fun s h => h
  mbuf := fun s b h => h
  recv := by
    intro s m ⟨h1, h2, h3⟩
    simp [RestartInv, restartNumbers_append, restartNumbers, h1, h2, h3]
  pre := by
    intro s ⟨h1, h2, h3⟩; simp [RestartInv, startPre, emit, restartNumbers_append, restartNumbers, h1, h2, h3]
  ev := by
    intro s k hk ⟨h1, h2, h3⟩
    cases k <;> simp_all [RestartInv, emit, restartNumbers_append, restartNumbers]
  cleanup := by
    intro s c ⟨h1, h2, h3⟩
    cases c <;> simp [cleanupEvs, RestartInv, restartNumbers_append, restartNumbers, h1, h2, h3]
  inboxStart := by
    intro s ⟨h1, h2, h3⟩
    simp [RestartInv, restartNumbers_append, restartNumbers, h1, h2, h3]
  restart := by
    intro s ⟨h1, h2, h3⟩ hne
    simp [RestartInv, emit, restartNumbers_append, restartNumbers, h1, h2, List.range_succ]
    omega

theorem restart_history (max mw : Nat) (script : List Outcome) (batches : List (List Msg)) :
    RestartInv max (runHistory max mw script batches).1 :=
  (RestartInv.inv max).runHistory max mw script batches ⟨rfl, rfl, Nat.zero_le _⟩

/-- restart events are numbered 1, 2, 3, … and there are at most `max` of them. -/
theorem restarts_ok (max mw : Nat) (script : List Outcome) (batches : List (List Msg)) :
    restartsOK max (runHistory max mw script batches).1.trace = true := by
  obtain ⟨-, h2, h3⟩ := restart_history max mw script batches
  simp [restartsOK, h2, h3]

theorem lcRun_append (tr l : List Ev) : lcRun (tr ++ l) = l.foldl lcStep (lcRun tr) := by
  simp [lcRun, List.foldl_append]

/-- acceptor is fine so far and follows the current incarnation. -/
def LBase (s : PSt) : Prop := (lcRun s.trace).ok = true ∧ (lcRun s.trace).cur = s.inc

/-- What a call leaves behind. `n` bounds the script still to be consumed: a batch can be invoked
    with any fuel `F ≥ 3 * n + 1` (`Rest.pre`). -/
def LQ (n : Nat) (s : PSt) : Prop :=
  s.script.length ≤ n ∧ LBase s ∧
  (s.stopped = true → (lcRun s.trace).phase = .stopped ∧ s.inboxOpen = false) ∧
  (s.stopped = false → (lcRun s.trace).phase = .started)

/-- A process between two calls (after `spawn`, between two batches): `LQ`, the fuel has not run
    out, and its inbox is open exactly while it has not stopped. -/
def Rest (n : Nat) (s : PSt) : Prop :=
  LQ n s ∧ s.fuelOut = false ∧ s.inboxOpen = !s.stopped

theorem LQ.ok {n : Nat} {s : PSt} (h : LQ n s) : (lcRun s.trace).ok = true := h.2.1.1
theorem LQ.stopped {n : Nat} {s : PSt} (h : LQ n s) (hs : s.stopped = true) :
    (lcRun s.trace).phase = .stopped ∧ s.inboxOpen = false := h.2.2.1 hs
theorem LQ.live {n : Nat} {s : PSt} (h : LQ n s) (hs : s.stopped = false) :
    (lcRun s.trace).phase = .started := h.2.2.2 hs
theorem Rest.post {n : Nat} {s : PSt} (h : Rest n s) : LQ n s := h.1
theorem Rest.fuel {n : Nat} {s : PSt} (h : Rest n s) : s.fuelOut = false := h.2.1
theorem Rest.inbox {n : Nat} {s : PSt} (h : Rest n s) : s.inboxOpen = !s.stopped := h.2.2

/-- a process inside a call: acceptor fine, not stopped, fuel not exhausted. -/
def LRun (n : Nat) (s : PSt) : Prop :=
  s.script.length ≤ n ∧ LBase s ∧ s.stopped = false ∧ s.fuelOut = false

/-- invariant of the delivery loop, which recurses on the batch and consumes no fuel. -/
def LLoop (n : Nat) (s : PSt) : Prop :=
  LRun n s ∧ (lcRun s.trace).phase = .started ∧ s.inboxOpen = true

/-- Pre-conditions of `start`, `invoke`, `tryRestart`. Every restart costs a panic of the script and
    at most three levels of nesting (`start → invoke → tryRestart`), whence the fuel bounds; a
    buffer to replay exists only once the inbox has been opened. -/
def LS (n f : Nat) (s : PSt) : Prop :=
  3 * s.script.length + 2 ≤ f ∧ LRun n s ∧
  ((lcRun s.trace).phase = .none ∨ (lcRun s.trace).phase = .stopped) ∧
  (s.mbuffer = [] ∨ s.inboxOpen = true)

def LI (n f : Nat) (s : PSt) : Prop := 3 * s.script.length + 1 ≤ f ∧ LLoop n s

def LT (n f : Nat) (s : PSt) : Prop :=
  3 * s.script.length + 3 ≤ f ∧ LRun n s ∧
  ((lcRun s.trace).phase = .inited ∨ (lcRun s.trace).phase = .started) ∧
  (s.mbuffer = [] ∨ s.inboxOpen = true)

theorem LLoop_recv (n : Nat) (s : PSt) (k : Nat) (snd : Option Nat) (h : LLoop n s) :
    LLoop n (callRecv s (.user k snd)).1 := by
  simp only [LLoop, LRun, LBase] at h ⊢
  simp [lcRun_append, lcStep, h]
  omega

theorem LLoop_cleanup (n : Nat) (s : PSt) (c : Option Nat) (h : LLoop n s) : Rest n (cleanup s c) := by
  simp only [LLoop, LRun, LBase] at h
  cases c <;> simp [cleanupEvs, Rest, LQ, LBase, lcRun_append, lcStep, h]

theorem LLoop_fin (n : Nat) (s : PSt) (h : LLoop n s) : Rest n s := by
  simp only [LLoop, LRun, LBase] at h
  simp [Rest, LQ, LBase, h]

theorem Rest_fin (n : Nat) (s : PSt) (h : LQ n s) (hf : s.fuelOut = false) : Rest n (fin s) := by
  simp only [LQ, LBase] at h
  unfold fin
  cases hs : s.stopped <;> simp [Rest, LQ, LBase, lcRun_append, lcStep, h, hs, hf]

/-- The life-cycle triple: from a running process in the phase the callee expects, with enough
    fuel, every call ends in a resting state. -/
theorem Rest.triple (n : Nat) : Triple (LS n) (LI n) (LT n) (Rest n) where
  s0 := fun s h => nomatch h.1
  i0 := fun s h => nomatch h.1
  t0 := fun s h => nomatch h.1
  -- with no fuel the bounds of `LS`, `LI`, `LT` cannot hold; in the fields that follow `simp` runs
  -- the acceptor over the events the branch appends, and `omega` or the one `Nat` lemma does the fuel
  sInit := by
    intro f s s2 v ⟨hf, hr, hph, hmb⟩ he
    simp only [LRun, LBase] at hr
    obtain ⟨sc, rfl, hl, hlt⟩ := callRecv_spec he
    have hlt := hlt v rfl
    simp only [startPre, emit] at hl hlt
    simp [LT, LRun, LBase, startPre, emit, lcRun_append, lcStep, hr, hph, hmb]
    omega
  sStarted := by
    intro f s s2 s4 v ⟨hf, hr, hph, hmb⟩ he1 he2
    simp only [LRun, LBase] at hr
    obtain ⟨sc, rfl, hl, -⟩ := callRecv_spec he1
    obtain ⟨sc', rfl, hl', hlt⟩ := callRecv_spec he2
    have hlt := hlt v rfl
    simp only [startPre, emit] at hl hl' hlt
    simp [LT, LRun, LBase, startPre, emit, lcRun_append, lcStep, hr, hph, hmb]
    omega
  sMid := by
    intro f s s2 s4 ⟨hf, hr, hph, hmb⟩ he1 he2
    simp only [LRun, LBase] at hr
    obtain ⟨sc, rfl, hl, -⟩ := callRecv_spec he1
    obtain ⟨sc', rfl, hl', -⟩ := callRecv_spec he2
    simp only [startPre, emit] at hl hl'
    refine ⟨fun _ => ?_, fun hb => ?_⟩
    · simp [Rest, LQ, LBase, fin, startPre, emit, lcRun_append, lcStep, hr, hph]
      omega
    · simp [LI, LLoop, LRun, LBase, startPre, emit, lcRun_append, lcStep, hr, hph,
        hmb.resolve_left (by simpa [startPre] using hb)]
      omega
  sFin := fun s h => Rest_fin n _ h.post h.fuel
  iFin := fun f s msgs s' ⟨_, h⟩ he =>
    invokeLoop_rule (LLoop_recv n) (fun s id => LLoop_cleanup n s _) (LLoop_fin n) h he
  iPanic := by
    intro f s msgs s' v buf ⟨hf, h⟩ he
    have hlt := invokeLoop_script_lt he
    obtain ⟨hr, hph, hio⟩ : LLoop n s' :=
      invokeLoop_rule (LLoop_recv n) (fun s id => LLoop_cleanup n s _) (LLoop_fin n) h he
    exact ⟨Nat.le_trans (Nat.mul_le_mul_left 3 hlt) (Nat.le_of_succ_le_succ hf), hr, Or.inr hph,
      Or.inr hio⟩
  tIerr := by
    intro f s ⟨hf, hr, hph, hmb⟩
    simp only [LRun, LBase] at hr
    rcases hph with hph | hph <;>
      simp [LS, LRun, LBase, lcRun_append, lcStep, hr, hph, hmb] <;> exact Nat.le_of_succ_le_succ hf
  tMax := by
    intro f s ⟨hf, hr, hph, hmb⟩ _
    simp only [LRun, LBase] at hr
    rcases hph with hph | hph <;>
      simp [Rest, LQ, LBase, cleanupEvs, lcRun_append, lcStep, hr, hph]
  tRestart := by
    intro f s ⟨hf, hr, hph, hmb⟩ _
    simp only [LRun, LBase] at hr
    rcases hph with hph | hph <;>
      simp [LS, LRun, LBase, emit, lcRun_append, lcStep, hr, hph, hmb] <;> exact Nat.le_of_succ_le_succ hf

/-- a resting process whose inbox is open can take the next batch. -/
theorem Rest.pre {n F : Nat} {s : PSt} (h : Rest n s) (ho : s.inboxOpen = true) (hF : 3 * n + 1 ≤ F) :
    LI n F s := by
  have hs : s.stopped = false := by simpa [ho] using h.inbox
  obtain ⟨hn, hb, -⟩ := h.post
  exact ⟨by omega, ⟨hn, hb, hs, h.fuel⟩, h.post.live hs, ho⟩

/-- every call of `spawn` with enough fuel ends in a resting state … -/
theorem rest_spawn (f max mw : Nat) (script : List Outcome) (hf : 3 * script.length + 2 ≤ f) :
    Rest script.length (spawn f max mw script).1 :=
  (Rest.triple script.length).start (by simp [LS, LRun, LBase, lcRun]; omega)

/-- … and so does every history. -/
theorem rest_history (max mw : Nat) (script : List Outcome) (batches : List (List Msg)) :
    Rest script.length (runHistory max mw script batches).1 :=
  (Rest.triple script.length).runHistory max mw script batches
    (by simp [LS, LRun, LBase, lcRun]) (fun _ h ho => h.pre ho (by simp))

/-- the fuel given by `runHistory` is never exhausted. -/
theorem _root_.HW.Proc.fuel_sufficient (max mw : Nat) (script : List Outcome) (batches : List (List Msg)) :
    (runHistory max mw script batches).1.fuelOut = false :=
  (rest_history max mw script batches).fuel

/-- the post-condition of a whole history: ended actors are in phase `stopped` with the inbox
    closed, live ones in phase `started`. -/
theorem history_post (max mw : Nat) (script : List Outcome) (batches : List (List Msg)) :
    LQ script.length (runHistory max mw script batches).1 :=
  (rest_history max mw script batches).post

/-- life-cycle shape of every incarnation. -/
theorem lifecycle_ok (max mw : Nat) (script : List Outcome) (batches : List (List Msg)) :
    lifecycleOK (runHistory max mw script batches).1.trace = true :=
  (history_post max mw script batches).ok

/-- when the spawn returns, the acceptor is fine and the actor has either handled Started (alive) or
    has handled its final Stopped with the inbox closed — for every budget, chain, crash script and
    any sufficient fuel. -/
theorem spawn_post (f max mw : Nat) (script : List Outcome) (hf : 3 * script.length + 2 ≤ f) :
    LQ script.length (spawn f max mw script).1 :=
  (rest_spawn f max mw script hf).post

/-- the acceptor never recovers: `ok` is only ever kept or cleared. -/
theorem lcStep_ok (st : LcSt) (e : Ev) (h : (lcStep st e).ok = true) : st.ok = true := by
  unfold lcStep at h
  split at h
  · split at h
    · exact h
    · cases h
  · split at h
    · cases h
    · split at h <;> first | exact h | cases h
  · exact h

theorem lcFold_ok_mono (tr : List Ev) : ∀ st : LcSt, (tr.foldl lcStep st).ok = true → st.ok = true := by
  induction tr with
  | nil => exact fun st h => h
  | cons e tr ih => exact fun st h => lcStep_ok st e (ih _ h)

theorem chainTarget_of_lc (tr : List Ev) : ∀ st : LcSt, (tr.foldl lcStep st).ok = true →
    chainTargetOK st.cur tr = true := by
  induction tr with
  | nil => intro st _; rfl
  | cons e tr ih =>
    intro st h
    -- the step is accepted (`hok`), and the rest targets the incarnation it leaves current (`ht`)
    have hok := lcFold_ok_mono tr _ h
    have ht := ih _ h
    cases e with
    | producer n =>
      by_cases hc : n = st.cur + 1 ∧ (st.phase = .none ∨ st.phase = .stopped)
      · simpa [lcStep, hc, chainTargetOK] using ht
      · simp [lcStep, hc] at hok
    | recv inc m a b =>
      by_cases hi : inc = st.cur
      · subst hi
        have hc : (lcStep st (.recv st.cur m a b)).cur = st.cur := by
          simp only [lcStep, ne_eq, not_true, if_false]; split <;> rfl
        simpa [chainTargetOK, hc] using ht
      · simp [lcStep, hi] at hok
    | _ => exact ht

theorem afterMaxOK_append (pre suf : List Ev) (h : Ev.ev .maxRestarts ∉ pre) :
    afterMaxOK (pre ++ suf) = afterMaxOK suf := by
  induction pre with
  | nil => rfl
  | cons e pre ih =>
    simp only [List.mem_cons, not_or] at h
    -- `afterMaxOK` skips any head but `maxRestarts`, so the goal is `ih`
    cases e with
    | ev k =>
      cases k with
      | maxRestarts => exact absurd rfl h.1
      | _ => exact ih h.2
    | _ => exact ih h.2

theorem afterMaxOK_of_not_mem (tr : List Ev) (h : Ev.ev .maxRestarts ∉ tr) : afterMaxOK tr = true := by
  have := afterMaxOK_append tr [] h
  simpa [afterMaxOK] using this

def NoMax (s : PSt) : Prop := Ev.ev .maxRestarts ∉ s.trace
def AfterMax (s : PSt) : Prop :=
  Ev.ev .maxRestarts ∉ s.trace ∨ (s.stopped = true ∧ s.inboxOpen = false ∧ afterMaxOK s.trace = true)

/-- Until the process gives up nothing emits `maxRestarts`; giving up ends in the clean stop
    sequence, after which `start` adds nothing, as the process is stopped. -/
theorem AfterMax.triple : Triple (fun _ => NoMax) (fun _ => NoMax) (fun _ => NoMax) AfterMax :=
  .exits (fuel := fun _ h => h) (mbuf := fun _ _ h => h)
    (recv := fun _ _ h => by simpa [NoMax] using h)
    (pre := fun _ h => by simpa [NoMax, startPre] using h)
    (ev := fun _ _ _ hk h => by simpa [NoMax, hk.symm] using h)
    (cleanup := fun _ _ h => by simpa [NoMax, cleanupEvs] using h)
    (inboxStart := fun _ _ h => by simpa [NoMax] using h)
    (restart := fun _ h _ => by simpa [NoMax] using h)
    (exit := fun _ => Or.inl)
    (sFin := fun s h => by
      rcases h with h | ⟨h1, h2, h3⟩
      · exact Or.inl (fin_rule (I := NoMax) (fun _ _ h => by simpa [NoMax] using h) _ h)
      · right; simp [fin, h1, h2, h3])
    (tMax := fun s h _ => by
      refine Or.inr ⟨rfl, rfl, ?_⟩
      simp only [cleanup_eq, emit_trace, List.append_assoc]
      rw [afterMaxOK_append _ _ h]
      rfl)

/-- when the budget is exhausted the trace ends with the clean stop sequence. -/
theorem after_max_ok (max mw : Nat) (script : List Outcome) (batches : List (List Msg)) :
    afterMaxOK (runHistory max mw script batches).1.trace = true := by
  have := AfterMax.triple.runHistory max mw script batches (by simp [NoMax]) (by
    intro s h ho
    rcases h with h | ⟨_, h2, _⟩
    · exact h
    · rw [h2] at ho; cases ho)
  rcases this with h | ⟨_, _, h⟩
  · exact afterMaxOK_of_not_mem _ h
  · exact h

end Shape
end HW.Proc
