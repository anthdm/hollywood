import HW.Model.RingConc
import HW.Proofs.ListSet
namespace HW.RingConc

/-- the queue content after `ops`. -/
def final (q : List Nat) (ops : List (RingOp Nat)) : List Nat :=
  ops.foldl (fun q op => (Fifo.step q op).1) q

theorem final_append (q : List Nat) (ops ops' : List (RingOp Nat)) :
    final q (ops ++ ops') = final (final q ops) ops' :=
  List.foldl_append

theorem run_append (q : List Nat) (ops ops' : List (RingOp Nat)) :
    Fifo.run q (ops ++ ops') = Fifo.run q ops ++ Fifo.run (final q ops) ops' := by
  induction ops generalizing q with
  | nil => rfl
  | cons o ops ih => exact congrArg (_ :: ·) (ih _)

/-- `lin` is a run of the sequential queue from the empty queue to `q`. -/
structure Lin (q : List Nat) (lin : List (RingOp Nat × RingOut Nat)) : Prop where
  run : Fifo.run [] (lin.map (·.1)) = lin.map (·.2)
  ends : q = final [] (lin.map (·.1))

theorem Lin.snoc {q : List Nat} {lin : List (RingOp Nat × RingOut Nat)} (h : Lin q lin)
    (op : RingOp Nat) : Lin (Fifo.step q op).1 (lin ++ [(op, (Fifo.step q op).2)]) := by
  obtain ⟨h1, h2⟩ := h
  constructor
  · rw [List.map_append, List.map_append, run_append, h1, ← h2]; rfl
  · rw [List.map_append, final_append, ← h2]; rfl

structure Inv (s : St) : Prop where
  cnt : s.cnt = s.q.length
  lin : Lin s.q s.lin
  /-- as many threads in the critical section as the mutex is held: none or one. -/
  crit : s.thr.countP inCritical = s.lock.isSome.toNat
  res : ∀ rs ∈ s.results, ∀ r ∈ rs, r ∈ s.lin.map (·.2)
  fin : ∀ pc ∈ s.thr, ∀ op res, pc = .finishing op res → res ∈ s.lin.map (·.2)

theorem inv_init (progs : List (List (RingOp Nat))) : Inv (init progs) := by
  have idle : ∀ pc ∈ (init progs).thr, pc = .idle := fun pc h => by
    obtain ⟨_, _, rfl⟩ := List.mem_map.1 h; rfl
  refine ⟨rfl, ⟨rfl, rfl⟩, List.countP_eq_zero.2 fun pc h => idle pc h ▸ Bool.false_ne_true,
    fun rs h => ?_, fun pc h _ _ e => nomatch (idle pc h).symm.trans e⟩
  obtain ⟨_, _, rfl⟩ := List.mem_map.1 h
  exact List.forall_mem_nil _

theorem crit_set {thr : List Pc} {lock lock' : Option Nat} {t : Nat} {old new : Pc}
    (h : thr.countP inCritical = lock.isSome.toNat) (hpc : thr[t]? = some old)
    (hl : lock'.isSome.toNat + (inCritical old).toNat = lock.isSome.toNat + (inCritical new).toNat) :
    (thr.set t new).countP inCritical = lock'.isSome.toNat := by
  have := countP_set_add inCritical hpc new; omega

theorem inv_step {s s' : St} (h : Inv s) (t : Nat) (hs : step s t = some s') : Inv s' := by
  -- `lin` only grows, at its end
  have hsub (x : RingOp Nat × RingOut Nat) : ∀ r ∈ s.lin.map (·.2), r ∈ (s.lin ++ [x]).map (·.2) :=
    fun r hr => by rw [List.map_append]; exact List.mem_append_left _ hr
  have hlast (x : RingOp Nat × RingOut Nat) : x.2 ∈ (s.lin ++ [x]).map (·.2) := by
    rw [List.map_append]; exact List.mem_append_right _ List.mem_cons_self
  have hres (r : RingOut Nat) {outs : List (RingOut Nat)}
      (hr : ∀ rs ∈ s.results, ∀ r ∈ rs, r ∈ outs) (hin : r ∈ outs) :
      ∀ rs ∈ s.results.set t (s.results.getD t [] ++ [r]), ∀ r ∈ rs, r ∈ outs :=
    forall_mem_set hr t (List.forall_mem_append.2
      ⟨forall_getD hr (List.forall_mem_nil _) t, List.forall_mem_singleton.2 hin⟩)
  unfold step at hs
  split at hs
  · cases hs
  next hpc =>
    split at hs
    · cases hs
    next op rest htodo =>
      split at hs <;> cases hs <;>
        exact ⟨h.cnt, h.lin, crit_set h.crit hpc rfl, h.res,
          forall_mem_set h.fin t fun _ _ e => nomatch e⟩
  next op hpc =>
    split at hs
    · cases hs
    next hlock =>
      cases hs
      exact ⟨h.cnt, h.lin, crit_set h.crit hpc (by rw [hlock]; rfl), h.res,
        forall_mem_set h.fin t fun _ _ e => nomatch e⟩
  next op hpc =>
    -- the linearization point
    cases hs
    exact ⟨rfl, h.lin.snoc op, crit_set h.crit hpc rfl,
      fun rs hrs r hr => hsub _ r (h.res rs hrs r hr),
      forall_mem_set (fun pc hpc op res e => hsub _ res (h.fin pc hpc op res e)) t
        fun _ _ e => by cases e; exact hlast _⟩
  next op res hpc =>
    -- the thread that releases is in its critical section, so by `crit` the lock is held
    cases hs
    have hmem := List.mem_of_getElem? hpc
    have hl : s.lock.isSome = true := Bool.toNat_eq_one.1 <| Nat.le_antisymm (Bool.toNat_le _) <|
      h.crit ▸ toNat_le_countP hpc inCritical
    exact ⟨h.cnt, h.lin, crit_set h.crit hpc (by rw [hl]; rfl),
      hres res h.res (h.fin _ hmem op res rfl), forall_mem_set h.fin t fun _ _ e => nomatch e⟩
  next hpc =>
    -- `Len` takes no lock: the counter it loads is the length of `q` by `cnt`
    cases hs
    have hlin := h.lin.snoc .len
    rw [show Fifo.step s.q .len = (s.q, .len s.q.length) from rfl, ← h.cnt] at hlin
    exact ⟨h.cnt, hlin, crit_set h.crit hpc rfl,
      hres _ (fun rs hrs r hr => hsub _ r (h.res rs hrs r hr)) (hlast _),
      forall_mem_set (fun pc hpc op res e => hsub _ res (h.fin pc hpc op res e)) t
        fun _ _ e => nomatch e⟩

theorem inv_run {s : St} (h : Inv s) (sched : List Nat) : Inv (runSched s sched) := by
  induction sched generalizing s with
  | nil => exact h
  | cons t ts ih =>
    unfold runSched
    split
    · exact ih h
    · rename_i s' hs; exact ih (inv_step h t hs)

theorem inv_reach (progs : List (List (RingOp Nat))) (sched : List Nat) :
    Inv (runSched (init progs) sched) := inv_run (inv_init progs) sched

end HW.RingConc
