import HW.Model.Inbox
import HW.Proofs.ListSet
/-!
The L1 inbox model as a relation. `step` touches the thread list in one way only: `set t pc'`, then
`++ extra` (`extra` is `[]` or `[.wLoad]`). `Step` has one constructor per outcome of `step`, all in
the shape "thread `t` moves from `pc` to `pc'`, the threads `extra` are spawned", so that what a step
does to a count of threads is one equation (`Step.countP`); every successful `step` is a `Step`
(`step_Step`), and what every `Step` preserves holds along every schedule (`runSched_induction`).
-/
namespace HW.Inbox

theorem getElem?_step {l : List Pc} {t j : Nat} {x : Pc} (h : l[j]? = some x) (pc' : Pc)
    (extra : List Pc) : (l.set t pc' ++ extra)[j]? = if t = j then some pc' else some x := by
  have hlt : j < l.length := (List.getElem?_eq_some_iff.1 h).1
  rw [List.getElem?_append_left (by simpa using hlt), List.getElem?_set, h]
  by_cases e : t = j <;> simp [e, hlt]

theorem getElem?_step_inv {l : List Pc} {t j : Nat} {x pc' : Pc} {extra : List Pc}
    (h : (l.set t pc' ++ extra)[j]? = some x) (hx : x ≠ pc') (hex : x ∉ extra) :
    l[j]? = some x := by
  rcases Nat.lt_or_ge j l.length with hlt | hge
  · rw [getElem?_step (List.getElem?_eq_getElem hlt)] at h
    split at h
    · exact absurd (Option.some.inj h).symm hx
    · exact (List.getElem?_eq_getElem hlt).trans h
  · rw [List.getElem?_append_right (by simpa using hge)] at h
    exact absurd (List.mem_of_getElem? h) hex

/-- where a sender goes after its `schedule()` call. -/
def afterSched (ms : List Msg) : Pc := if ms = [] then .done else .sPush ms

/-- the three program points that call `schedule()`, with the pc that follows. -/
inductive SchedPc : Pc → Pc → Prop
  | sender (ms : List Msg) : SchedPc (.sSched ms) (afterSched ms)
  | worker : SchedPc .wSched .done
  | starter : SchedPc .stSched .done

/-- `Step B s t pc pc' extra s'`: thread `t`, at `pc`, takes one atomic step to `pc'`, spawning the
    threads `extra`, and the state becomes `s'`. -/
inductive Step (B : Nat) (s : St) (t : Nat) : Pc → Pc → List Pc → St → Prop
  | push (m : Msg) (ms : List Msg) : Step B s t (.sPush (m :: ms)) (.sSched ms) []
      { s with q := s.q ++ [m], pushed := s.pushed ++ [(t, m)], thr := s.thr.set t (.sSched ms) }
  | schedOk (pc pc' : Pc) : SchedPc pc pc' → s.status = .idle → Step B s t pc pc' [.wLoad]
      { s with status := .running, thr := s.thr.set t pc' ++ [.wLoad] }
  | schedFail (pc pc' : Pc) : SchedPc pc pc' → s.status ≠ .idle → Step B s t pc pc' []
      { s with thr := s.thr.set t pc' }
  | loadStopped : s.status = .stopped → Step B s t .wLoad .wCasIdle []
      { s with thr := s.thr.set t .wCasIdle }
  | loadLive : s.status ≠ .stopped → Step B s t .wLoad .wPop []
      { s with thr := s.thr.set t .wPop }
  | popEmpty : s.q = [] → Step B s t .wPop .wCasIdle []
      { s with thr := s.thr.set t .wCasIdle }
  | pop : s.q ≠ [] → Step B s t .wPop (.wInvoke (s.q.take B)) []
      { s with q := s.q.drop B, thr := s.thr.set t (.wInvoke (s.q.take B)) }
  | invoke (b : List Msg) : Step B s t (.wInvoke b) .wLoad []
      { s with delivered := s.delivered ++ b, thr := s.thr.set t .wLoad }
  | casOk : s.status = .running → Step B s t .wCasIdle .wLen []
      { s with status := .idle, thr := s.thr.set t .wLen }
  | casFail : s.status ≠ .running → Step B s t .wCasIdle .done []
      { s with thr := s.thr.set t .done }
  | lenEmpty : s.q = [] → Step B s t .wLen .done []
      { s with thr := s.thr.set t .done }
  | lenNonempty : s.q ≠ [] → Step B s t .wLen .wSched []
      { s with thr := s.thr.set t .wSched }
  | life : Step B s t .stLife .stCas []
      { s with thr := s.thr.set t .stCas }
  | stCasOk : s.status = .stopped → Step B s t .stCas .stSwap []
      { s with status := .starting,
               restartedAfterStop := s.restartedAfterStop || s.everStopped,
               thr := s.thr.set t .stSwap }
  | stCasFail : s.status ≠ .stopped → Step B s t .stCas .done []
      { s with thr := s.thr.set t .done }
  | swap : Step B s t .stSwap .stSched []
      { s with status := .idle, started := true, thr := s.thr.set t .stSched }
  | stop : Step B s t .stop .done []
      { s with status := .stopped, everStopped := true, thr := s.thr.set t .done }

theorem Step.thr_eq {B : Nat} {s s' : St} {t : Nat} {pc pc' : Pc} {extra : List Pc}
    (h : Step B s t pc pc' extra s') : s'.thr = s.thr.set t pc' ++ extra := by
  cases h <;> simp

theorem Step.countP {B : Nat} {s s' : St} {t : Nat} {pc pc' : Pc} {extra : List Pc}
    (h : Step B s t pc pc' extra s') (hpc : s.thr[t]? = some pc) (p : Pc → Bool) :
    s'.thr.countP p + (p pc).toNat = s.thr.countP p + (p pc').toNat + extra.countP p := by
  rw [h.thr_eq, List.countP_append, Nat.add_right_comm, countP_set_add p hpc pc']

theorem trySchedule_ok {s : St} (h : s.status = .idle) :
    trySchedule s = ({ s with status := .running, thr := s.thr ++ [.wLoad] }, true) := by
  simp [trySchedule, h]

theorem trySchedule_fail {s : St} (h : s.status ≠ .idle) : trySchedule s = (s, false) := by
  simp [trySchedule, h]

/-- `h` is what `step` leaves at the three calls of `schedule()`: its `let (s', ok) := trySchedule ..`
    is the two projections. -/
theorem sched_Step {B : Nat} {s s' : St} {t : Nat} {pc pc' : Pc} {l : Label} (hsp : SchedPc pc pc')
    (h : some ((trySchedule (setPc s t pc')).1, Label.cas .idle .running (trySchedule (setPc s t pc')).2)
      = some (s', l)) :
    ∃ extra, Step B s t pc pc' extra s' := by
  by_cases hst : s.status = .idle
  · rw [trySchedule_ok (by simpa [setPc] using hst)] at h
    cases h
    exact ⟨_, Step.schedOk pc pc' hsp hst⟩
  · rw [trySchedule_fail (by simpa [setPc] using hst)] at h
    cases h
    exact ⟨_, Step.schedFail pc pc' hsp hst⟩

theorem step_Step {B : Nat} {s s' : St} {t : Nat} {l : Label} (h : step B s t = some (s', l)) :
    ∃ pc pc' extra, s.thr[t]? = some pc ∧ Step B s t pc pc' extra s' := by
  unfold step at h
  split at h
  · cases h
  · rename_i pc hpc
    refine ⟨pc, ?_⟩
    split at h
    · cases h
    · cases h
    · cases h; exact ⟨_, _, hpc, Step.push _ _⟩
    · exact ⟨_, (sched_Step (.sender _) h).imp fun _ => .intro hpc⟩
    · cases h
      by_cases hst : s.status = .stopped
      · simp only [hst, if_true]; exact ⟨_, _, hpc, Step.loadStopped hst⟩
      · simp only [hst, if_false]; exact ⟨_, _, hpc, Step.loadLive hst⟩
    · split at h
      · rename_i hq; cases h; exact ⟨_, _, hpc, Step.popEmpty hq⟩
      · rename_i hq; cases h; exact ⟨_, _, hpc, Step.pop hq⟩
    · cases h; exact ⟨_, _, hpc, Step.invoke _⟩
    · split at h
      · rename_i hst; cases h; exact ⟨_, _, hpc, Step.casOk hst⟩
      · rename_i hst; cases h; exact ⟨_, _, hpc, Step.casFail hst⟩
    · cases h
      by_cases hq : s.q = []
      · simp only [hq, if_true]; exact ⟨_, _, hpc, Step.lenEmpty hq⟩
      · simp only [hq, if_false]; exact ⟨_, _, hpc, Step.lenNonempty hq⟩
    · exact ⟨_, (sched_Step .worker h).imp fun _ => .intro hpc⟩
    · cases h; exact ⟨_, _, hpc, Step.life⟩
    · split at h
      · rename_i hst; cases h; exact ⟨_, _, hpc, Step.stCasOk hst⟩
      · rename_i hst; cases h; exact ⟨_, _, hpc, Step.stCasFail hst⟩
    · cases h; exact ⟨_, _, hpc, Step.swap⟩
    · exact ⟨_, (sched_Step .starter h).imp fun _ => .intro hpc⟩
    · cases h; exact ⟨_, _, hpc, Step.stop⟩

theorem runSched_induction {B : Nat} {P : St → Prop}
    (hstep : ∀ {s s' : St} {t : Nat} {pc pc' : Pc} {extra : List Pc},
      P s → s.thr[t]? = some pc → Step B s t pc pc' extra s' → P s')
    (sched : List Nat) : ∀ {s : St}, P s → P (runSched B s sched) := by
  induction sched with
  | nil => exact id
  | cons t ts ih =>
    intro s h
    unfold runSched
    split
    · exact ih h
    · rename_i s' l hs
      obtain ⟨pc, pc', extra, hpc, hS⟩ := step_Step hs
      exact ih (hstep h hpc hS)

end HW.Inbox
