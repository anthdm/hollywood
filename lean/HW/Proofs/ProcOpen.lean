/-
The inbox flag of a process: two invariants kept by every primitive, which C02 and C03 read off a whole history.
* C02: the inbox is opened at most once (`OpenedOnce`) — what the hypothesis `restartedAfterStop = false` of
  the inbox protocol theorems asks of process.go.
* C03, process-level half: a process that is still registered (so senders' messages are accepted
  into its inbox) is not stopped (`RegLive`) and its inbox is open — what the premise `started` of
  `C03.no_idle_backlog` asks of it.
-/
import HW.Proofs.ProcFrame
namespace HW.Proc

/-- number of successful `inbox.Start`s so far. -/
def opens (s : PSt) : Nat := s.trace.count (.inboxStart true)

/-- the inbox was opened at most once, and not yet at all while it is closed on a process that has
    not stopped: `inbox.Start` only succeeds on a closed inbox, and `start` only tries it on a
    process that has not stopped. -/
def OpenedOnce (s : PSt) : Prop :=
  opens s ≤ 1 ∧ (s.inboxOpen = false → s.stopped = false → opens s = 0)

theorem OpenedOnce.same {s r : PSt} (h : OpenedOnce s) (hn : opens r = opens s)
    (ho : r.inboxOpen = s.inboxOpen) (hs : r.stopped = s.stopped) : OpenedOnce r := by
  unfold OpenedOnce at *; rw [hn, ho, hs]; exact h

theorem OpenedOnce.triple :
    Shape.Triple (fun _ => OpenedOnce) (fun _ => OpenedOnce) (fun _ => OpenedOnce) OpenedOnce :=
  .const (fuel := fun _ h => h) (mbuf := fun _ _ h => h)
    (recv := fun _ _ h => h.same (by simp [opens]) (by simp) (by simp))
    -- an appended event that is no `inboxStart true` counts `0` by evaluation: `List.count_append` is
    -- the whole equation
    (pre := fun _ h => h.same List.count_append rfl rfl)
    (ev := fun _ _ _ h => h.same List.count_append rfl rfl)
    (cleanup := fun s c h => by cases c <;> simpa [OpenedOnce, opens, cleanupEvs] using h.1)
    (inboxStart := fun s hs h => by
      -- on a closed inbox the one successful `Start` is the first, on an open one it fails
      cases ho : s.inboxOpen
      · simpa [OpenedOnce, opens, ho] using h.2 ho hs
      · simpa [OpenedOnce, opens, ho] using h.1)
    (restart := fun _ h _ => h.same List.count_append rfl rfl)

/-- a registered process has not stopped. -/
def RegLive (s : PSt) : Prop := s.registered = true → s.stopped = false

theorem RegLive.triple :
    Shape.Triple (fun _ => RegLive) (fun _ => RegLive) (fun _ => RegLive) RegLive :=
  .const (fuel := fun _ h => h) (mbuf := fun _ _ h => h)
    (recv := fun _ _ h => by simpa [RegLive] using h)
    (pre := fun _ h => h) (ev := fun _ _ _ h => h) (cleanup := fun _ _ _ => by simp [RegLive])
    (inboxStart := fun _ _ h => by simpa [RegLive] using h) (restart := fun _ h _ => h)

end HW.Proc
