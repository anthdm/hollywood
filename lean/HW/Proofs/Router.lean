import HW.Model.Router
namespace HW.Router

theorem inv_init : RouteInv {} := fun _ h => nomatch h

theorem shutdown_inv (s : St) (a : Addr) (h : RouteInv s) : RouteInv (shutdown s a).1 := by
  intro b hb
  by_cases hba : b = a
  · exact .inr (hba ▸ List.mem_append_right _ List.mem_cons_self)
  · exact (h b hb).imp (fun h1 => List.mem_filter.2 ⟨h1, decide_eq_true hba⟩)
      (List.mem_append_left _)

theorem send_inv (s : St) (a : Addr) (m : Nat) (h : RouteInv s) : RouteInv (send s a m) :=
  fun b hb => (h b hb).imp_right (List.mem_append_left _)

theorem connLost_inv (s : St) (a : Addr) (h : RouteInv s) : RouteInv (connLost s a).1 := by
  unfold connLost
  split
  · exact shutdown_inv s a h
  · exact h

/-- a new route whose writer is registered. -/
theorem route_inv {s : St} {a : Addr} {reg : List Addr} (h : RouteInv s) (ha : a ∈ reg)
    (hreg : ∀ b ∈ s.registered, b ∈ reg) : RouteInv { s with routes := a :: s.routes, registered := reg } :=
  fun b hb => (List.mem_cons.1 hb).elim (fun e => .inl (e ▸ ha)) fun hb => (h b hb).imp_left (hreg b)

theorem ensureRoute_inv (dial : Addr → Bool) (s : St) (a : Addr) (h : RouteInv s) :
    RouteInv (ensureRoute dial s a).1 := by
  unfold ensureRoute
  split
  · exact h
  · split
    · rename_i h2; exact route_inv h (List.contains_iff_mem.1 h2) fun _ => id
    · have hbase := route_inv (a := a) h List.mem_cons_self fun _ => List.mem_cons_of_mem _
      split
      · exact hbase
      · exact shutdown_inv _ a hbase

theorem routerStep_inv (dial : Addr → Bool) (s : St) (h : RouteInv s) : RouteInv (routerStep dial s).1 := by
  unfold routerStep
  split
  · exact h
  · rename_i a rest hin
    intro b hb
    obtain ⟨hb, hne⟩ := List.mem_filter.1 hb
    refine (h b hb).imp_right fun h1 => ?_
    rw [hin] at h1
    exact (List.mem_cons.1 h1).resolve_left fun e => of_decide_eq_true hne (RMsg.unreachable.inj e)
  · rename_i a m rest hin
    refine ensureRoute_inv dial _ a fun b hb => (h b hb).imp_right fun h1 => ?_
    rw [hin] at h1
    exact (List.mem_cons.1 h1).resolve_left nofun

end HW.Router
