/-
C07: every `cancel` is emitted after the final Stopped, the unregistration and (graceful pill) after
every user message that precedes the pill in the history has been delivered.
-/
import HW.Proofs.ProcReplay
namespace HW.Proc

/-- the scan of `cancelOK`, from an arbitrary scan state. -/
def cfold (hist : List Msg) (st : CSt) (tr : List Ev) : CSt := tr.foldl (cancelStep hist) st

@[simp] theorem cfold_nil (hist st) : cfold hist st [] = st := rfl
@[simp] theorem cfold_cons (hist st e tr) :
    cfold hist st (e :: tr) = cfold hist (cancelStep hist st e) tr := rfl
theorem cfold_append (hist st a b) : cfold hist st (a ++ b) = cfold hist (cfold hist st a) b := by
  simp [cfold, List.foldl_append]

theorem cfold_users (hist : List Msg) (tr : List Ev) : ∀ st,
    (cfold hist st tr).users = st.users ++ userRecvs tr := by
  induction tr with
  | nil => intro st; simp
  | cons e tr ih =>
    intro st
    cases e with
    | recv inc m mw reg => cases m <;> simp [ih, cancelStep]
    | _ => exact ih _

theorem cfold_recvEvs (hist : List Msg) (s : PSt) (D) : ∀ st,
    cfold hist st (recvEvs s D) = { st with users := st.users ++ D } := by
  induction D with
  | nil => intro st; simp
  | cons u D ih =>
    intro st
    simp only [recvEvs, List.map_cons, cfold_cons] at ih ⊢
    rw [ih]
    simp [cancelStep]

/-- pills of `msgs` are ready to be cancelled once reached: everything the history has before them
    is in `R` or ahead of them in `msgs`. -/
def Ready (hist : List Msg) : List (Nat × Option Nat) → List Msg → Prop
  | _, [] => True
  | R, .user k s :: ms => Ready hist (R ++ [(k, s)]) ms
  | R, .pill id _ :: ms => (∀ u ∈ usersBeforePill id hist, u ∈ R) ∧ Ready hist R ms

theorem Ready.mono (hist : List Msg) (ms : List Msg) : ∀ R R', (∀ u ∈ R, u ∈ R') →
    Ready hist R ms → Ready hist R' ms := by
  induction ms with
  | nil => intro _ _ _ _; trivial
  | cons m ms ih =>
    intro R R' hR h
    cases m with
    | user k s =>
      refine ih _ _ (fun u hu => ?_) h
      rw [List.mem_append] at hu ⊢
      exact hu.imp_left (hR u)
    | pill id g => exact ⟨fun u hu => hR u (h.1 u hu), ih _ _ hR h.2⟩

theorem Ready_append (hist : List Msg) (a b : List Msg) : ∀ R,
    Ready hist R (a ++ b) ↔ Ready hist R a ∧ Ready hist (R ++ usersOf a) b := by
  induction a with
  | nil => intro R; simp [Ready]
  | cons m a ih =>
    intro R
    cases m with
    | user k s => simp [Ready, ih]
    | pill id g => simp [Ready, ih, and_assoc]

theorem usersBeforePill_append_pill (id : Nat) (g : Bool) (pre x : List Msg) :
    ∀ u ∈ usersBeforePill id (pre ++ .pill id g :: x), u ∈ usersOf pre := by
  induction pre with
  | nil => simp [usersBeforePill]
  | cons m pre ih =>
    intro u hu
    cases m with
    | user k s =>
      simp only [List.cons_append, usersBeforePill, List.mem_cons, usersOf_user] at hu ⊢
      exact hu.imp_right (ih u)
    | pill i g' =>
      simp only [List.cons_append, usersBeforePill, usersOf_pill] at hu ⊢
      split at hu
      · cases hu
      · exact ih u hu

theorem Ready_hist (hist : List Msg) (ms : List Msg) : ∀ pre, hist = pre ++ ms →
    Ready hist (usersOf pre) ms := by
  induction ms with
  | nil => intro _ _; trivial
  | cons m ms ih =>
    intro pre h
    cases m with
    | user k s =>
      simp only [Ready]
      have := ih (pre ++ [.user k s]) (by simp [h])
      simpa using this
    | pill id g =>
      simp only [Ready]
      refine ⟨?_, ?_⟩
      · rw [h]; exact usersBeforePill_append_pill id g pre ms
      · have := ih (pre ++ [.pill id g]) (by simp [h])
        simpa using this

/-- the scan of the trace so far is fine and knows the current incarnation. -/
def CInv (hist : List Msg) (s : PSt) : Prop :=
  (cfold hist {} s.trace).ok = true ∧ (cfold hist {} s.trace).cur = s.inc

section
variable {hist : List Msg} {s : PSt}

/-! `CInv` is kept by every primitive but the `cleanup` that cancels: only `cancel` touches `ok`,
and `cur` follows the producer as `inc` does. -/

theorem CInv.recv (h : CInv hist s) (m : LMsg) : CInv hist (callRecv s m).1 := by
  obtain ⟨h1, h2⟩ := h
  cases m <;> simp [CInv, cfold_append, cancelStep, h1, h2]

theorem CInv.ev (h : CInv hist s) (k : EvKind) : CInv hist (emit s (.ev k)) := by
  obtain ⟨h1, h2⟩ := h
  simp [CInv, cfold_append, cancelStep, h1, h2]

theorem CInv.stA (h : CInv hist s) : CInv hist (stA s) := by
  simp [CInv, cfold_append, stAEvs, cancelStep, h.1]

theorem CInv.stC (h : CInv hist s) : CInv hist (stC s) :=
  (((h.stA.recv _).ev _).recv _).ev _

theorem CInv.stEnd (h : CInv hist s) : CInv hist (stEnd s) := by
  obtain ⟨h1, h2⟩ := h
  unfold HW.Proc.stEnd
  split <;> simp [CInv, cfold_append, cancelStep, h1, h2]

theorem CInv.upd (h : CInv hist s) (D scr) : CInv hist (upd s D scr) := by
  obtain ⟨h1, h2⟩ := h
  simp [CInv, cfold_append, cfold_recvEvs, h1, h2]

end

/-- `invoke` alone asks for `s.inc ≠ 0`: a cancel is accepted only from a current incarnation
    (`cancelStep` wants `cur ≠ 0`), and only the loop, which runs inside one, emits any. -/
theorem cancel_rel (hist : List Msg) :
    Rel (fun _ s r => CInv hist s → Ready hist (userRecvs s.trace) s.mbuffer → CInv hist r)
      (fun _ s msgs r => CInv hist s → s.inc ≠ 0 → Ready hist (userRecvs s.trace) msgs → CInv hist r)
      (fun _ s _ r => CInv hist s → Ready hist (userRecvs s.trace) s.mbuffer → CInv hist r) where
  fuelS := fun s h _ => h
  fuelI := fun s _ h _ _ => h
  fuelT := fun s _ h _ => h
  initPanic := fun f s v r _ h hc hr => h (hc.stA.recv _) (by simpa using hr)
  startedPanic := fun f s v r _ _ h hc hr => h (((hc.stA.recv _).ev _).recv _) (by simpa using hr)
  started := fun f s _ _ _ hc _ => hc.stC.stEnd
  replayed := fun f s r _ _ _ h hc hr =>
    CInv.stEnd (s := { r with mbuffer := [] }) (h hc.stC (by simp) (by simpa using hr))
  loopDone := fun f s msgs scr _ hc _ _ => hc.upd _ _
  loopPill := by
    -- the one place a `cancel` is emitted: after Stopped and the unregistration by the order of
    -- `cleanupEvs`, and after the users before the pill because `Ready` put them into what has
    -- been received (`hd`)
    intro f s pre id g post scr _ hc hi hr
    obtain ⟨h1, h2⟩ := hc
    rw [Ready_append] at hr
    have hd := hr.2.1
    have hu := cfold_users hist s.trace {}
    simp only [List.nil_append] at hu
    simp [CInv, cfold_append, cfold_recvEvs, cleanupEvs, cancelStep, h1, h2, hi, hu]
    exact .inr fun a b hab => (List.mem_append.1 (hd _ hab)).imp_right .inl
  loopPanic := by
    intro f s pre k snd buf scr v r _ h hc _ hr
    refine h (hc.upd _ scr) ?_
    rw [Ready_append] at hr
    simpa [Ready] using hr.2
  drainPanic := by
    -- the pill goes back behind `rest`; it stays ready because what precedes it in the history
    -- had been received when it was first reached (`hd`)
    intro f s pre id post k snd rest scr v r _ h hc _ hr
    refine h (hc.upd _ scr) ?_
    rw [Ready_append] at hr
    obtain ⟨_, hd, hr⟩ := hr
    rw [Ready_append] at hr
    simp only [upd_trace, userRecvs_append, userRecvs_recvEvs, Ready_append, Ready, and_true]
    exact ⟨by simpa [Ready] using hr.2, List.Subset.trans hd (by simp)⟩
  ierr := fun f s r h hc hr => h (hc.recv _) (by simpa using hr)
  maxed := by
    intro f s _ hc _
    obtain ⟨h1, h2⟩ := hc
    simp [CInv, cfold_append, cleanupEvs, cancelStep, h1, h2]
  restart := fun f s r _ h hc hr => h ((hc.recv .stopped).ev _) (by simpa using hr)

theorem cancel_runBatches (hist : List Msg) {n F : Nat} (hF : 3 * n + 1 ≤ F) : ∀ bs s, Shape.Rest n s →
    CInv hist s → s.inc ≠ 0 → Ready hist (userRecvs s.trace) bs.flatten →
    CInv hist (runBatches F s bs).1 :=
  runBatches_rest hF
    (M := fun s bs r => CInv hist s → s.inc ≠ 0 → Ready hist (userRecvs s.trace) bs.flatten → CInv hist r)
    (done := fun _ _ _ _ hc _ _ => hc)
    (stop := fun s b bs _ _ _ hc hi hr => by
      rw [List.flatten_cons, Ready_append] at hr
      exact (cancel_rel hist).invoke F s b hc hi hr.1)
    (cont := fun s b bs r _ h1 hs _ ih hc hi hr => by
      rw [List.flatten_cons, Ready_append] at hr
      obtain ⟨_, a1, -, a3⟩ := replay_invoke F s b
      obtain rfl := a3 hs h1.fuel
      refine ih ((cancel_rel hist).invoke F s b hc hi hr.1) ?_ (a1 ▸ hr.2)
      exact Nat.ne_of_gt (Nat.lt_of_lt_of_le (Nat.pos_of_ne_zero hi) (frame_invoke F s b).inc))

/-- every cancel comes after the final Stopped and the unregistration (and after the drain). -/
theorem cancel_ok (max mw : Nat) (script : List Outcome) (batches : List (List Msg)) :
    cancelOK batches (runHistory max mw script batches).1.trace = true := by
  rw [runHistory_eq]
  have hc := (cancel_rel batches.flatten).start (3 * script.length + 6)
    { maxRestarts := max, mwLen := mw, script := script } ⟨rfl, rfl⟩ trivial
  have hi := inc_lt_start (f := 3 * script.length + 6) (Nat.succ_ne_zero _)
    { maxRestarts := max, mwLen := mw, script := script }
  exact (cancel_runBatches batches.flatten (n := script.length) (by simp) batches _
    (Shape.rest_spawn (3 * script.length + 6) max mw script (by simp)) hc (Nat.ne_zero_of_lt hi)
    (by rw [userRecvs_spawn]; exact Ready_hist batches.flatten _ [] rfl)).1

end HW.Proc
