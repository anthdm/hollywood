import HW.Proofs.ClusterLemmas
namespace HW.Cluster

def idsNodup (ms : List Member) : Prop := (ids ms).Nodup

/-- what `HasKind` answers, relative to the node's own kinds (the agent starts with its local kinds). -/
def KindsInv (localKinds : List String) (st : AgentSt) : Prop :=
  ∀ k, k ∈ st.kinds ↔ (k ∈ localKinds ∨ ∃ m ∈ st.members, k ∈ m.kinds)

theorem handle_members_eq (st : AgentSt) (snap : List Member) :
    (handleMembers st snap).1.members =
      except ((except (mkSet snap) st.members).foldl setAdd st.members) (except st.members snap) := by
  rw [handleMembers_fst, leave_members, runAll_join]

/-- the targets of the topology messages among the outputs. -/
def topoIds (out : List AgentOut) : List String :=
  out.filterMap fun o => match o with | .topology t _ => some t | _ => none

theorem handle_joinIds (st : AgentSt) (snap : List Member) :
    joinIds (handleMembers st snap).2 = ids (except (mkSet snap) st.members) := by
  rw [handleMembers_snd]
  simp [joinIds, joinOut, List.filterMap_flatMap, List.filterMap_map, ids, Function.comp_def,
    ← List.map_eq_flatMap, apply_ite (List.filterMap _)]

theorem handle_leaveIds (st : AgentSt) (snap : List Member) :
    leaveIds (handleMembers st snap).2 = ids (except st.members snap) := by
  rw [handleMembers_snd]
  simp [leaveIds, joinOut, List.filterMap_flatMap, List.filterMap_map, ids, Function.comp_def,
    apply_ite (List.filterMap _)]

theorem handle_topoIds (st : AgentSt) (snap : List Member) :
    topoIds (handleMembers st snap).2 =
      if st.activated = [] then [] else ids (except (mkSet snap) st.members) := by
  rw [handleMembers_snd]
  by_cases h : st.activated = [] <;>
    simp [topoIds, joinOut, h, List.filterMap_flatMap, List.filterMap_map, ids, Function.comp_def,
      ← List.map_eq_flatMap]

theorem mem_ids_handle (st : AgentSt) (snap : List Member) (id : String) :
    id ∈ ids (handleMembers st snap).1.members ↔ id ∈ ids snap := by
  rw [handle_members_eq, mem_ids_except, mem_ids_foldl fun _ _ _ => mem_ids_setAdd, mem_ids_except, mem_ids_except,
    mem_ids_mkSet]
  -- (old ∪ (snap ∖ old)) ∖ (old ∖ snap) = snap, element by element
  by_cases h1 : id ∈ ids st.members <;> by_cases h2 : id ∈ ids snap <;> simp [h1, h2]

theorem handle_nodup (st : AgentSt) (snap : List Member) (h : idsNodup st.members) :
    idsNodup (handleMembers st snap).1.members := by
  unfold idsNodup at *
  rw [handle_members_eq]
  exact nodup_except _ (nodup_foldl (fun _ _ => nodup_setAdd) _ _ h)

theorem mem_handle_sub (st : AgentSt) (snap : List Member) (m : Member)
    (hm : m ∈ (handleMembers st snap).1.members) : m ∈ st.members ∨ m ∈ snap := by
  rw [handle_members_eq] at hm
  rcases mem_foldl_sub (fun _ _ _ => mem_setAdd_sub) _ _ _ (List.mem_filter.1 hm).1 with h | h
  · exact Or.inl h
  · exact Or.inr (mem_mkSet_sub (List.mem_filter.1 h).1)

/-- if nobody leaves, the joiners are appended and their kinds added; otherwise the kinds are rebuilt
    from the new member list. -/
theorem handle_kinds_eq (st : AgentSt) (snap : List Member) :
    ((handleMembers st snap).1.members = st.members ++ except (mkSet snap) st.members ∧
      (handleMembers st snap).1.kinds =
        (except (mkSet snap) st.members).foldl (fun acc m => addKinds acc m.kinds) st.kinds) ∨
    (handleMembers st snap).1.kinds = rebuildKinds (handleMembers st snap).1.members := by
  rw [handleMembers_fst]
  by_cases hl : except st.members snap = []
  · rw [hl, runAll_join]
    exact Or.inl ⟨foldl_setAdd_fresh _ _ (nodup_except _ (nodup_mkSet snap))
      fun id hid => (mem_ids_except.1 hid).2, rfl⟩
  · exact Or.inr (leave_kinds _ _ hl)

/-- when a member leaves, every activation hosted on it disappears from the view; others stay. -/
theorem leave_purges (st : AgentSt) (m : Member) :
    ∀ a, a ∈ (memberLeave st m).1.activated ↔ a ∈ st.activated ∧ a.2.1 ≠ m.host := by
  intro a
  simp [memberLeave, List.mem_filter]

theorem provAdd_spec (st : ProvSt) (ms : List Member) (h : (ids st.members).Nodup) :
    (ids (provAdd st ms).1.members).Nodup ∧
    (∀ id, id ∈ ids (provAdd st ms).1.members ↔ id ∈ ids st.members ∨ id ∈ ids ms) ∧
    (provAdd st ms).2 = [.agent (ids (provAdd st ms).1.members)] :=
  ⟨nodup_foldl nodup_addNew ms _ h, mem_ids_foldl mem_ids_addNew ms _, rfl⟩

theorem provAdd_sub (st : ProvSt) (ms : List Member) (x : Member) (hx : x ∈ (provAdd st ms).1.members) :
    x ∈ st.members ∨ x ∈ ms :=
  mem_foldl_sub mem_addNew_sub ms _ x hx

theorem provHandshake_eq (st : ProvSt) (peer : Member) :
    provHandshake st peer =
      ((provAdd st [peer]).1, (provAdd st [peer]).2 ++ [.reply (ids (provAdd st [peer]).1.members)]) := rfl

/-- an unreachable report either finds no member at that address and does nothing, or removes the
    member `GetByHost` returns, which is one at that address, and tells the agent. -/
theorem provLeave_cases (st : ProvSt) (addr : String) :
    (provLeave st addr = (st, []) ∧ ∀ m ∈ st.members, m.host ≠ addr) ∨
    ∃ m ∈ st.members, m.host = addr ∧ provLeave st addr =
      ({ members := setRemove st.members m.id }, [.agent (ids (setRemove st.members m.id))]) := by
  unfold provLeave getByHost
  cases hg : (st.members.filter (·.host = addr)).getLast? with
  | none =>
    have := List.getLast?_eq_none_iff.1 hg
    exact Or.inl ⟨rfl, fun m hm => by simpa using List.filter_eq_nil_iff.1 this m hm⟩
  | some m =>
    have hm := List.mem_filter.1 (List.mem_of_getLast? hg)
    exact Or.inr ⟨m, hm.1, by simpa using hm.2, rfl⟩

end HW.Cluster
