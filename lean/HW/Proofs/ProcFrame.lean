/-
Frame facts: what every function of the model preserves (the trace only grows, `stopped` and
`fuelOut` are monotone, ...), and the induction over the batches of a history.
-/
import HW.Proofs.ProcShape
namespace HW.Proc

/-- What every call preserves between the state `s` it starts in and the state `r` it returns.
    `opn`: "an open inbox belongs to a process that has not stopped" is kept (it is not monotone
    field by field: `cleanup` closes the inbox and stops the process in one go). -/
structure Frame (s r : PSt) : Prop where
  tr : s.trace <+: r.trace
  stopped : s.stopped = true → r.stopped = true
  fuel : s.fuelOut = true → r.fuelOut = true
  inc : s.inc ≤ r.inc
  script : r.script.length ≤ s.script.length
  opn : (s.inboxOpen = true → s.stopped = false) → (r.inboxOpen = true → r.stopped = false)

theorem Frame.refl (s : PSt) : Frame s s :=
  ⟨List.prefix_refl _, id, id, Nat.le_refl _, Nat.le_refl _, id⟩

theorem Frame.trans {a b c : PSt} (h1 : Frame a b) (h2 : Frame b c) : Frame a c :=
  ⟨h1.tr.trans h2.tr, fun h => h2.stopped (h1.stopped h), fun h => h2.fuel (h1.fuel h),
   Nat.le_trans h1.inc h2.inc, Nat.le_trans h2.script h1.script, fun h => h2.opn (h1.opn h)⟩

theorem Frame.not_mem {s r : PSt} (h : Frame s r) {e : Ev} (hr : e ∉ r.trace) : e ∉ s.trace :=
  fun hs => hr (h.tr.subset hs)

/-- every primitive only adds to what `Frame` watches. -/
theorem Frame.triple (s0 : PSt) :
    Shape.Triple (fun _ => Frame s0) (fun _ => Frame s0) (fun _ => Frame s0) (Frame s0) :=
  .const
    (fuel := fun _ h => h.trans ⟨List.prefix_refl _, id, fun _ => rfl, Nat.le_refl _, Nat.le_refl _, id⟩)
    (mbuf := fun _ _ h => h.trans ⟨List.prefix_refl _, id, id, Nat.le_refl _, Nat.le_refl _, id⟩)
    (recv := fun s m h => h.trans ⟨by simp, by simp, by simp, by simp, callRecv_script_le s m, by simp⟩)
    (pre := fun s h => h.trans ⟨List.prefix_append _ _, id, id, Nat.le_succ _, Nat.le_refl _, id⟩)
    (ev := fun _ _ _ h => h.trans ⟨List.prefix_append _ _, id, id, Nat.le_refl _, Nat.le_refl _, id⟩)
    (cleanup := fun _ _ h => h.trans ⟨by simp, by simp, by simp, by simp, by simp, by simp⟩)
    (inboxStart := fun _ hs h => h.trans ⟨by simp, by simp, by simp, by simp, by simp, by simp [hs]⟩)
    (restart := fun _ h _ => h.trans ⟨List.prefix_append _ _, id, id, Nat.le_refl _, Nat.le_refl _, id⟩)

theorem frame_invoke (f s msgs) : Frame s (invoke f s msgs).1 :=
  (Frame.triple s).invoke msgs (.refl s)
theorem frame_tryRestart (f s v) : Frame s (tryRestart f s v).1 :=
  (Frame.triple s).tryRestart v (.refl s)
theorem frame_runBatches (fuel : Nat) (bs : List (List Msg)) (s : PSt) : Frame s (runBatches fuel s bs).1 :=
  (Frame.triple s).runBatches fuel (fun _ h _ => h) bs s (.refl s)

/-- `start` with fuel creates an incarnation. -/
theorem inc_lt_start {f : Nat} (hf : f ≠ 0) (s : PSt) : s.inc < (start f s).1.inc := by
  obtain ⟨f, rfl⟩ := Nat.exists_eq_succ_of_ne_zero hf
  rw [Nat.succ_eq_add_one, start_succ_fst]
  -- every branch goes on from a state past `stA`, where `inc` is `s.inc + 1`, by a call that
  -- does not lower it
  split
  · exact Nat.lt_of_lt_of_le (by simp) (frame_tryRestart ..).inc
  · split
    · exact Nat.lt_of_lt_of_le (by simp) (frame_tryRestart ..).inc
    · split
      · simp
      · rw [stEnd_eq]
        exact Nat.lt_of_lt_of_le (by simp) (frame_invoke f (stC s) s.mbuffer).inc

open Shape in
/-- Induction over the batches of a history. The rest is skipped once the inbox is closed (`done`);
    otherwise the next batch is invoked, and either stops the process, which closes the inbox
    (`stop`), or leaves it running with the inbox open (`cont`). -/
theorem runBatches_rest {n F : Nat} (hF : 3 * n + 1 ≤ F) {M : PSt → List (List Msg) → PSt → Prop}
    (done : ∀ s bs, Rest n s → bs = [] ∨ s.inboxOpen = false → M s bs s)
    (stop : ∀ s b bs, Rest n s → Rest n (invoke F s b).1 → (invoke F s b).1.stopped = true →
      M s (b :: bs) (invoke F s b).1)
    (cont : ∀ s b bs r, Rest n s → Rest n (invoke F s b).1 → (invoke F s b).1.stopped = false →
      Frame (invoke F s b).1 r → M (invoke F s b).1 bs r → M s (b :: bs) r) :
    ∀ bs s, Rest n s → M s bs (runBatches F s bs).1 := by
  intro bs
  induction bs with
  | nil => exact fun s h => done s [] h (.inl rfl)
  | cons b bs ih =>
    intro s h
    rw [runBatches_cons]
    cases ho : s.inboxOpen with
    | false => exact done s _ h (.inr ho)
    | true =>
      have h1 := (Rest.triple n).invoke b (h.pre ho hF)
      cases hs : (invoke F s b).1.stopped with
      | true => rw [if_pos rfl, runBatches_closed _ _ _ (h1.post.stopped hs).2]; exact stop s b bs h h1 hs
      | false => exact cont s b bs _ h h1 hs (frame_runBatches F bs _) (ih _ h1)

end HW.Proc
